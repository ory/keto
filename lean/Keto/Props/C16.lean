/-
  C16 — names survive the string→UUID mapping unchanged and unaliased.

  Model: Keto/Model/Mapping.lean (`Mapper.FromTuple` / `ToTuple` / `FromQuery` / `ToQuery` / `ToTree` and the
  SQL mapping manager; the hash `UUIDv5(network, ·)` is the parameter `Env.h`).  Lemmas:
  Keto/Proofs/MappingLemmas.lean; the tie of the single UUID derivation site: Keto/Proofs/FactsTieUUID.lean.

  Not proved: that UUIDv5 has no collision (`InjOn` is a hypothesis wherever it matters) and that the model is
  what the Go code does (streams `mapper`, `store-faults`, `expand`, `conc`).

  Hypotheses that appear below and what they stand for:
    `T.wf`                      the primary key of `keto_uuid_mappings` (no id twice); holds for `[]`, preserved
                                by every mapper operation (`C16_table_invariant`)
    `Consistent E.h T`          every row was written by the mapper (`id = h string`); same remarks
    `InjOn E.h S`               no UUIDv5 collision among the strings `S` involved (NOT an axiom: a hypothesis)
    `1 ≤ pageSize`, `1 ≤ chunk` both are positive constants of the code (`C16_constants`)
    `(keyOrder l).Perm l`       Go's map iteration enumerates every key exactly once, in any order
-/
import Keto.Model.Mapping
import Keto.Proofs.MappingLemmas
import Keto.Generated.Facts
import Keto.Proofs.FactsTieUUID

namespace Keto
open Mapping

/-- The two sizes of the code (regenerated from the sources) satisfy the side conditions. -/
theorem C16_constants : 1 ≤ Facts.defaultPageSize ∧ 1 ≤ Facts.chunkSizeInsertUUIDMappings := by decide

/-- `batchFromUUIDs` returns at every position what the table holds for the id at that position (`""` when the
    id has no row): any batch, any repeats, every page size ≥ 1, every enumeration order of the distinct ids. -/
theorem C16_batch_lookup_all (T : Table) (hwf : T.wf) (ids : List Id) (pageSize : Nat) (hp : 1 ≤ pageSize)
    (keyOrder : List Id → List Id) (hperm : (keyOrder (distinct ids)).Perm (distinct ids)) :
    batchFromUUIDs T ids pageSize keyOrder = ids.map (fun id => (T.find id).getD "") :=
  batchFromUUIDs_eq T hwf ids pageSize hp keyOrder (fun _ hx => (hperm.mem_iff).mpr hx)

/-- `C16_batch_lookup_all` read at one position. -/
theorem C16_batch_lookup (T : Table) (hwf : T.wf) (ids : List Id) (pageSize : Nat) (hp : 1 ≤ pageSize)
    (keyOrder : List Id → List Id) (hperm : (keyOrder (distinct ids)).Perm (distinct ids))
    (i : Nat) (hi : i < ids.length) :
    (batchFromUUIDs T ids pageSize keyOrder)[i]? = some ((T.find ids[i]).getD "") := by
  rw [C16_batch_lookup_all T hwf ids pageSize hp keyOrder hperm]
  simp [hi]

/-- Writing a batch through the read-write mapper `E` and reading it back through any mapper `E'` (either mode,
    page size ≥ 1, any key order) returns every tuple at its position; a tuple that sets both subject fields
    comes back without the subject set (`normalize`). -/
theorem C16_roundtrip_normalized (E E' : Env) (T : Table) (b : List ApiTuple)
    (hwf : T.wf) (hcons : Consistent E.h T) (hinj : InjOn E.h (T.strings ++ batchStrings b))
    (hrw : E.readOnly = false) (hchunk : 1 ≤ E.chunk) (hpage : 1 ≤ E'.pageSize)
    (hperm : ∀ l, (E'.keyOrder l).Perm l) (hvalid : ∀ t ∈ b, t.valid E = true) :
    ∃ its, (fromTuple E T (b.map some)).1 = .ok its ∧
      toTuple E' (fromTuple E T (b.map some)).2 its = .ok (b.map ApiTuple.normalize) := by
  rw [fromTuple_valid E T b hvalid]
  exact ⟨_, rfl, toTuple_toInternal E' _ (mapUUIDs_eq E' _ (mapStrings_wf E T _ hchunk hwf) hpage hperm) E.h b
    (fun t ht => valid_subject (hvalid t ht))
    fun s hs => look_of_find (mapStrings_find_self E T _ hrw hchunk hcons hinj s hs)⟩

/-- The round trip: `ToTuple (FromTuple b) = b` for every batch of valid tuples with exactly one
    subject field each. -/
theorem C16_roundtrip (E E' : Env) (T : Table) (b : List ApiTuple)
    (hwf : T.wf) (hcons : Consistent E.h T) (hinj : InjOn E.h (T.strings ++ batchStrings b))
    (hrw : E.readOnly = false) (hchunk : 1 ≤ E.chunk) (hpage : 1 ≤ E'.pageSize)
    (hperm : ∀ l, (E'.keyOrder l).Perm l)
    (hvalid : ∀ t ∈ b, t.valid E = true) (hwell : ∀ t ∈ b, t.wellFormed = true) :
    ∃ its, (fromTuple E T (b.map some)).1 = .ok its ∧
      toTuple E' (fromTuple E T (b.map some)).2 its = .ok b := by
  obtain ⟨its, h1, h2⟩ := C16_roundtrip_normalized E E' T b hwf hcons hinj hrw hchunk hpage hperm hvalid
  rw [List.map_congr_left (g := id) fun t ht => normalize_wellFormed t (hwell t ht), List.map_id] at h2
  exact ⟨its, h1, h2⟩

/-- `C16_roundtrip` with `res := b`; the two added conjuncts hold by `rfl`. -/
theorem C16_roundtrip_pos (E E' : Env) (T : Table) (b : List ApiTuple)
    (hwf : T.wf) (hcons : Consistent E.h T) (hinj : InjOn E.h (T.strings ++ batchStrings b))
    (hrw : E.readOnly = false) (hchunk : 1 ≤ E.chunk) (hpage : 1 ≤ E'.pageSize)
    (hperm : ∀ l, (E'.keyOrder l).Perm l)
    (hvalid : ∀ t ∈ b, t.valid E = true) (hwell : ∀ t ∈ b, t.wellFormed = true) :
    ∃ (its : List Tuple) (res : List ApiTuple), (fromTuple E T (b.map some)).1 = .ok its ∧
      toTuple E' (fromTuple E T (b.map some)).2 its = .ok res ∧
      res.length = b.length ∧ ∀ i : Nat, res[i]? = b[i]? := by
  obtain ⟨its, h1, h2⟩ := C16_roundtrip E E' T b hwf hcons hinj hrw hchunk hpage hperm hvalid hwell
  exact ⟨its, b, h1, h2, rfl, fun _ => rfl⟩

/-- Within a mapped batch (either mode, any table) two positions get the same id exactly when they hold the
    same string (⇐ always; ⇒ under `InjOn E.h ss`). -/
theorem C16_unaliased (E : Env) (T : Table) (ss : List String) (hinj : InjOn E.h ss)
    (i j : Nat) (hi : i < ss.length) (hj : j < ss.length) :
    (mapStrings E T ss).1[i]? = (mapStrings E T ss).1[j]? ↔ ss[i] = ss[j] := by
  rw [mapStrings_ids]
  exact hinj.getElem?_map_eq_iff hi hj

/-- The same for the flattened ids of `FromTuple b` (subject, object, subject, object, …). -/
theorem C16_unaliased_tuples (E : Env) (T : Table) (b : List ApiTuple)
    (hinj : InjOn E.h (batchStrings b)) (hvalid : ∀ t ∈ b, t.valid E = true) :
    ∃ its, (fromTuple E T (b.map some)).1 = .ok its ∧
      (its.flatMap (fun t => [subjId t.sub, t.obj])).length = (batchStrings b).length ∧
      ∀ i j (hi : i < (batchStrings b).length) (hj : j < (batchStrings b).length),
        (its.flatMap (fun t => [subjId t.sub, t.obj]))[i]? = (its.flatMap (fun t => [subjId t.sub, t.obj]))[j]? ↔
          (batchStrings b)[i] = (batchStrings b)[j] := by
  refine ⟨b.map (toInternal E.h), by rw [fromTuple_valid E T b hvalid], ?_⟩
  have hflat : (b.map (toInternal E.h)).flatMap (fun t => [subjId t.sub, t.obj]) = (batchStrings b).map E.h := by
    rw [batchStrings, List.map_flatMap, List.flatMap_map]
    congr 1
    simp [strsOf, toInternal_subjId, toInternal_obj]
  rw [hflat]
  exact ⟨by simp, fun i j hi hj => hinj.getElem?_map_eq_iff hi hj⟩

/-- The id of a string does not depend on the table, the mode of the mapper, the other strings of the batch or
    the position. -/
theorem C16_same_string_same_id (E₁ E₂ : Env) (hh : E₁.h = E₂.h) (T₁ T₂ : Table) (ss₁ ss₂ : List String)
    (i j : Nat) (hi : i < ss₁.length) (hj : j < ss₂.length) (he : ss₁[i] = ss₂[j]) :
    (mapStrings E₁ T₁ ss₁).1[i]? = (mapStrings E₂ T₂ ss₂).1[j]? := by
  rw [mapStrings_ids, mapStrings_ids]
  simp [List.getElem?_map, List.getElem?_eq_getElem hi, List.getElem?_eq_getElem hj, he, hh]

/-- `Env.h` is one function for the writing and the read-only mapper (`E₁.h = E₂.h` in
    `C16_same_string_same_id`): in the code name UUIDs are derived at exactly one site,
    `uuid.NewV5(p.NetworkID(ctx), s)`, and the writing `MapStringsToUUIDs` obtains its ids by calling the
    read-only method (regenerated fact). -/
theorem C16_one_derivation : Facts.uuidDerive = FactsTie.expectedUUIDDerive := FactsTie.uuidDerive_tie

/-- Every entry point of the read-only mapper that maps strings leaves the table as it was; the id→string
    direction has no table output at all. -/
theorem C16_readonly_no_insert (E : Env) (hro : E.readOnly = true) (T : Table) :
    (∀ ss, (mapStrings E T ss).2 = T) ∧
    (∀ b, (fromTuple E T b).2 = T) ∧
    (∀ q, (fromQuery E T q).2 = T) ∧
    (∀ ss, (fromSubjectSet E T ss).2 = T) := by
  have h0 : ∀ ss, (mapStrings E T ss).2 = T := fun ss => mapStrings_table_ro E T ss hro
  -- on every path the table is `T` or that of one `mapStrings` call
  refine ⟨h0, fun b => ?_, fun q => ?_, fun ss => ?_⟩
  · fun_cases fromTuple E T b <;> first | rfl | exact h0 _
  · fun_cases fromQuery E T q <;> first | rfl | exact h0 _
  · fun_cases fromSubjectSet E T ss <;> first | rfl | exact h0 _

/-- A failing `FromTuple` (unknown namespace, nil tuple, no subject) has not touched the table, in
    either mode. -/
theorem C16_error_no_insert (E : Env) (T : Table) (b : List (Option ApiTuple)) (e : MErr)
    (he : collectFrom E b = .error e) : fromTuple E T b = (.error e, T) := by
  unfold fromTuple; rw [he]

/-- The invariants assumed above hold of the empty table and are preserved by every mapping, in both modes;
    strings only enter the table from a mapped batch. -/
theorem C16_table_invariant (E : Env) (hchunk : 1 ≤ E.chunk) :
    (Table.wf [] = true ∧ Consistent E.h []) ∧
    ∀ T ss, T.wf → Consistent E.h T →
      (mapStrings E T ss).2.wf ∧ Consistent E.h (mapStrings E T ss).2 ∧
      (∀ v ∈ (mapStrings E T ss).2.strings, v ∈ T.strings ++ ss) ∧
      (∀ id v, T.find id = some v → (mapStrings E T ss).2.find id = some v) := by
  refine ⟨⟨rfl, fun r hr => by cases hr⟩, ?_⟩
  intro T ss hw hc
  exact ⟨mapStrings_wf E T ss hchunk hw, mapStrings_consistent E T ss hchunk hw hc,
    mapStrings_strings E T ss hchunk hw, fun id v h => mapStrings_find_of_find E T ss hchunk h⟩

/-- `ToQuery (FromQuery q) = q` once the strings of `q` are readable under their ids (`hknown`, discharged below
    for both modes).  With both subject fields set the subject set wins and the subject id is lost, hence `hone`
    (`FromURLQuery` rejects that shape before the mapper sees it). -/
theorem C16_query_roundtrip (E E' : Env) (T : Table) (q : ApiQuery)
    (hwf : T.wf) (hchunk : 1 ≤ E.chunk) (hpage : 1 ≤ E'.pageSize) (hperm : ∀ l, (E'.keyOrder l).Perm l)
    (hnss : E'.nss = E.nss) (hns : q.nsUnknown E = false) (hsn : q.setNsUnknown E = false)
    (hone : q.subjectId = none ∨ q.subjectSet = none)
    (hknown : ∀ s ∈ q.strings, (mapStrings E T q.strings).2.find (E.h s) = some s) :
    ∃ iq, (fromQuery E T q).1 = .ok iq ∧ toQuery E' (fromQuery E T q).2 iq = .ok q := by
  have hk : E'.nsKnown = E.nsKnown := by funext n; rw [Env.nsKnown, hnss]; rfl
  rw [fromQuery_ok E T q hns hsn]
  exact ⟨_, rfl, toQuery_toInternal E' _ (mapUUIDs_eq E' _ (mapStrings_wf E T _ hchunk hwf) hpage hperm) E.h q
    (by rw [ApiQuery.nsUnknown, hk]; exact hns) (by rw [ApiQuery.setNsUnknown, hk]; exact hsn) hone
    fun s hs => look_of_find (hknown s hs)⟩

/-- `hknown` for the read-write mapper: it follows from injectivity. -/
theorem C16_known_after_write (E : Env) (T : Table) (ss : List String) (hrw : E.readOnly = false)
    (hchunk : 1 ≤ E.chunk) (hcons : Consistent E.h T) (hinj : InjOn E.h (T.strings ++ ss)) :
    ∀ s ∈ ss, (mapStrings E T ss).2.find (E.h s) = some s :=
  mapStrings_find_self E T ss hrw hchunk hcons hinj

/-- `hknown` for the read-only mapper: the strings must have been written before. -/
theorem C16_known_readonly (E : Env) (T : Table) (ss : List String) (hro : E.readOnly = true)
    (hk : ∀ s ∈ ss, T.find (E.h s) = some s) : ∀ s ∈ ss, (mapStrings E T ss).2.find (E.h s) = some s := by
  rw [mapStrings_table_ro E T ss hro]; exact hk

/-- `ToTree` (one single-id lookup per node, children first): the API tree has the shape of the internal tree
    and every node carries the table's string for its id. -/
theorem C16_tree (E : Env) (T : Table) (hwf : T.wf) (hpage : 1 ≤ E.pageSize)
    (hperm : ∀ l, (E.keyOrder l).Perm l) (t : ITree) (hns : ITree.nsOk E t = true) :
    toTree E T t = .ok (labelTree T t) :=
  toTree_eq E T hwf hpage hperm t hns

/-- The key order used by the driver is a permutation for every seed. -/
theorem C16_seedOrder_perm (seed : Nat) (l : List Id) : (seedOrder seed l).Perm l := by
  have hrot : ∀ k, (l.drop k ++ l.take k).Perm l := fun k => by
    simpa using List.perm_append_comm (l₁ := l.drop k) (l₂ := l.take k)
  unfold seedOrder
  split
  · exact (List.reverse_perm _).trans (hrot _)
  · exact hrot _

namespace C16ex

/-- A concrete hash, injective on the strings used below (and colliding elsewhere: `"zz"` ↦ 0). -/
def h (s : String) : Id :=
  if s == "" then 1 else if s == "alice" then 2 else if s == "doc" then 3 else if s == "grp" then 4 else 0

def env (ro : Bool) (page : Nat) : Env :=
  { h := h, nss := ["n", "g"], readOnly := ro, pageSize := page, chunk := 2, keyOrder := List.reverse }

/-- Three tuples: `alice` is a subject twice (repeat), `doc` is object of the first and subject-set
    object of the third, the empty string is an object. -/
def batch : List ApiTuple := [
  ⟨"n", "doc", "view", some "alice", none⟩,
  ⟨"n", "", "edit", some "alice", none⟩,
  ⟨"n", "grp", "member", none, some ⟨"g", "doc", "member"⟩⟩]

/-- A table that already knows `doc`. -/
def T0 : Table := [(3, "doc")]

theorem inj : InjOn h (T0.strings ++ batchStrings batch) := by decide

end C16ex

open C16ex in
-- the hypotheses of `C16_roundtrip` are satisfiable together (page size 1: three pages; reversed key order;
-- chunk 2: two INSERT statements)
example : Table.wf T0 = true ∧ Consistent h T0 ∧ (∀ t ∈ batch, t.valid (env false 1) = true) ∧
    (∀ t ∈ batch, t.wellFormed = true) ∧
    (fromTuple (env false 1) T0 (batch.map some)).1 =
      .ok [⟨"n", 3, "view", .id 2⟩, ⟨"n", 1, "edit", .id 2⟩, ⟨"n", 4, "member", .set "g" 3 "member"⟩] ∧
    (fromTuple (env false 1) T0 (batch.map some)).2 = [(3, "doc"), (1, ""), (2, "alice"), (4, "grp")] ∧
    toTuple (env true 1) (fromTuple (env false 1) T0 (batch.map some)).2
      [⟨"n", 3, "view", .id 2⟩, ⟨"n", 1, "edit", .id 2⟩, ⟨"n", 4, "member", .set "g" 3 "member"⟩] = .ok batch :=
  ⟨by decide, by decide, by decide, by decide, by decide, by decide, by decide⟩

open C16ex in
-- … and `C16_roundtrip` applies to it
example : ∃ its, (fromTuple (env false 1) T0 (batch.map some)).1 = .ok its ∧
    toTuple (env true 2) (fromTuple (env false 1) T0 (batch.map some)).2 its = .ok batch :=
  C16_roundtrip (env false 1) (env true 2) T0 batch (by decide) (by decide) inj rfl (by decide) (by decide)
    (fun _ => List.reverse_perm _) (by decide) (by decide)

open C16ex in
-- `C16_batch_lookup_all` with a repeated id, an id without row, three page sizes and key orders
example : batchFromUUIDs [(3, "doc"), (1, ""), (2, "alice")] [2, 3, 2, 9, 1] 1 List.reverse = ["alice", "doc", "alice", "", ""] ∧
    batchFromUUIDs [(3, "doc"), (1, ""), (2, "alice")] [2, 3, 2, 9, 1] 2 id = ["alice", "doc", "alice", "", ""] ∧
    batchFromUUIDs [(3, "doc"), (1, ""), (2, "alice")] [2, 3, 2, 9, 1] 100 (seedOrder 3) = ["alice", "doc", "alice", "", ""] := by
  decide

open C16ex in
-- `C16_readonly_no_insert` on the batch; unknown names then read back as "", not as an error
example : (fromTuple (env true 100) T0 (batch.map some)) =
      (.ok [⟨"n", 3, "view", .id 2⟩, ⟨"n", 1, "edit", .id 2⟩, ⟨"n", 4, "member", .set "g" 3 "member"⟩], T0) ∧
    toTuple (env true 100) T0 [⟨"n", 3, "view", .id 2⟩] = .ok [⟨"n", "doc", "view", some "", none⟩] := by
  decide

open C16ex in
-- `C16_query_roundtrip` on concrete queries; with both subject fields (outside `hone`) the subject set wins
example : (fromQuery (env true 1) [(3, "doc"), (2, "alice")] ⟨some "n", some "doc", none, some "alice", none⟩).1 =
      .ok ⟨some "n", some 3, none, some (.id 2)⟩ ∧
    toQuery (env true 1) [(3, "doc"), (2, "alice")] ⟨some "n", some 3, none, some (.id 2)⟩ =
      .ok ⟨some "n", some "doc", none, some "alice", none⟩ ∧
    toQuery (env true 1) [(3, "doc"), (2, "alice")] ⟨none, none, some "r", some (.set "g" 3 "m")⟩ =
      .ok ⟨none, none, some "r", none, some ⟨"g", "doc", "m"⟩⟩ ∧
    (fromQuery (env true 1) [] ⟨none, some "doc", none, some "alice", some ⟨"g", "grp", "m"⟩⟩).1 =
      .ok ⟨none, some 3, none, some (.set "g" 4 "m")⟩ ∧
    (fromQuery (env true 1) [] ⟨some "x", none, none, none, none⟩).1 = .error .notFound := by
  decide

open C16ex in
-- `C16_tree` on a union node with two leaves; its hypothesis `nsOk` holds
example : toTree (env true 1) [(3, "doc"), (2, "alice")]
      (.node "union" (.set "n" 3 "view") [.node "leaf" (.id 2) [], .node "leaf" (.set "g" 3 "member") []]) =
      .ok (.node "union" none (some ⟨"n", "doc", "view"⟩)
        [.node "leaf" (some "alice") none [], .node "leaf" none (some ⟨"g", "doc", "member"⟩) []]) ∧
    ITree.nsOk (env true 1) (.node "union" (.set "n" 3 "view") [.node "leaf" (.id 2) []]) = true := by
  constructor
  · rfl
  · rfl

open C16ex in
-- `InjOn` is necessary for `C16_roundtrip`: "zz" and "yy" collide under `h`, the first one written wins
-- (`ON CONFLICT DO NOTHING`) and the second reads back as the first
example : ∃ its, (fromTuple (env false 100) [] [some ⟨"n", "zz", "r", some "yy", none⟩]).1 = .ok its ∧
    toTuple (env true 100) (fromTuple (env false 100) [] [some ⟨"n", "zz", "r", some "yy", none⟩]).2 its =
      .ok [⟨"n", "yy", "r", some "yy", none⟩] :=
  ⟨_, rfl, by decide⟩

open C16ex in
-- `C16_roundtrip_normalized` (`normalize`) and `C16_error_no_insert` on concrete input: errors are reported per
-- kind, first failing tuple first
example : ApiTuple.normalize ⟨"n", "doc", "view", some "alice", some ⟨"g", "grp", "member"⟩⟩ =
      ⟨"n", "doc", "view", some "alice", none⟩ ∧
    fromTuple (env false 100) T0 [some ⟨"n", "doc", "view", none, none⟩, none] = (.error .nilSubject, T0) ∧
    fromTuple (env false 100) T0 [none, some ⟨"x", "doc", "view", some "a", none⟩] = (.error .malformed, T0) ∧
    fromTuple (env false 100) T0 [some ⟨"n", "doc", "view", none, some ⟨"x", "o", "r"⟩⟩] = (.error .notFound, T0) := by
  decide

end Keto
