/-
  C13 — no request can crash a handler; malformed requests are client errors.

  Model: Keto/Model/HandlerTable.lean, a finite classification (endpoint × mutation kind → allowed answer
  classes); the theorems are about every cell of that table.

  Not proved: that the handlers answer within their cell (stream `hfuzz`, on every run).  "State untouched when
  status >= 400" is `C04_rejected_no_effect` / C17 on the model side and is observed on every generated request.
-/
import Keto.Model.HandlerTable

namespace Keto.HT

/-- No cell of the classification admits a 5xx / Internal answer or a panic. -/
theorem C13_no_server_no_panic :
    ∀ r ∈ table, ∀ c ∈ r.2.2, c = .ok ∨ c = .client := by
  decide +kernel

/-- Every cell admits at least one answer (the handler returns). -/
theorem C13_cells_nonempty : ∀ r ∈ table, r.2.2 ≠ [] := by
  decide +kernel

/-- Requests that are malformed beyond doubt are answered with a client error only. -/
theorem C13_malformed_rejected :
    ∀ r ∈ table, mustReject r.1 r.2.1 = true → r.2.2 = [.client] := by
  decide +kernel

def nodupB {α} [BEq α] : List α → Bool
  | [] => true
  | a :: l => !l.contains a && nodupB l

theorem nodup_of_nodupB {α} [BEq α] [LawfulBEq α] : ∀ {l : List α}, nodupB l = true → l.Nodup
  | [], _ => .nil
  | a :: l, h => by
    simp only [nodupB, Bool.and_eq_true, Bool.not_eq_true', List.contains_eq_mem,
      decide_eq_false_iff_not] at h
    exact List.nodup_cons.mpr ⟨h.1, nodup_of_nodupB h.2⟩

/-- Each (endpoint, mutation) pair occurs once. -/
theorem C13_table_functional : (table.map (fun r => (r.1, r.2.1))).Nodup :=
  -- through `nodupB`: the kernel evaluates the `Decidable` instance of `List.Nodup` at twice the cost
  nodup_of_nodupB (by decide +kernel)

-- `C13_malformed_rejected`, `C13_no_server_no_panic` on two concrete cells
example : lookup "w-patch" "null-element" = some [.client] ∧ lookup "r-check" "valid" = some [.ok] ∧
    mustReject "w-patch" "null-element" = true := by decide +kernel
-- the hypothesis of `C13_malformed_rejected` is met by at least 20 cells
example : (table.filter (fun r => mustReject r.1 r.2.1)).length ≥ 20 := by decide +kernel

end Keto.HT
