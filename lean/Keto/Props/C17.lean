/-
  C17 — the read API never modifies stored state (model-level theorems).

  Model: every operation returns the database it leaves behind (`DB`: the relationship table and the
  name-mapping table).  The mappers go through `mapStrings readOnly`: the writing mapper inserts the names
  of the request into the mapping table, the read-only mapper computes the ids and inserts nothing.
  Not proved: that the read API of the code uses only the read-only mapper and only Get/Exists.  That is tied by
  the correspondence stream `store-readonly` alone (no Lean statement reads the route and mapper-use tables).
  Lemmas: Keto/Proofs/StoreTable.lean (the table), Keto/Proofs/StoreLemmas.lean (requests).
-/
import Keto.Model.Store
import Keto.Proofs.StoreLemmas

namespace Keto.Store

/-- `MapStringsToUUIDsReadOnly`, for any names, known or never seen. -/
theorem C17_readOnly_mapper (ck : Chunking) (fail : Oracle) (nid : Nat) (strs : List Nat) (db : DB) :
    mapStrings true ck fail nid strs db = (true, db) := mapStrings_readOnly ck fail nid strs db

/-- `Mapper.FromQuery` with the read-only mapper: namespace lookups and id computation, no insert. -/
theorem C17_mapQuery_preserves (ck : Chunking) (cfg : Names) (fail : Oracle) (nid : Nat) (q : Query) (db : DB) :
    (mapQuery true ck cfg fail nid q db).2 = db := mapQuery_readOnly_snd ck cfg fail nid q db

/-- Each read operation of the model (a page and a complete listing through the API, the persister's Get and
    Exists, a check/expand/… request whose names go through the read-only mapper) returns the database
    unchanged, whatever the arguments. -/
theorem C17_reads_preserve (ck : Chunking) (cfg : Names) (nid : Nat) (db : DB) :
    (∀ q size tok, (listReq ck cfg nid q size tok db).2 = db) ∧
    (∀ q size, (listAllReq ck cfg nid q size db).2 = db) ∧
    (∀ q size tok, (pList nid q size tok db).2 = db) ∧
    (∀ q, (pExists nid q db).2 = db) ∧
    (∀ strs, (readOnlyMap ck nid strs db).2 = db) :=
  ⟨fun q size tok => step_read ck cfg noFail nid (.list q size tok) db rfl,
   fun q size => step_read ck cfg noFail nid (.listAll q size) db rfl,
   fun q size tok => step_read ck cfg noFail nid (.pList q size tok) db rfl,
   fun _ => rfl,
   fun _ => rfl⟩

/-- After any sequence of read requests, in any networks and under any fault oracle, both tables are what they
    were (`DB` equality). -/
theorem C17_readonly (ck : Chunking) (cfg : Names) (fail : Oracle) (h : History)
    (hread : ∀ x ∈ h, x.2.isRead = true) (db : DB) :
    (run ck cfg fail h db).2 = db :=
  run_inv (P := (· = db)) (fun nid op d hop hd => (step_read ck cfg fail nid op d hop).trans hd) h db hread rfl

/-- The contrapositive of `C17_readonly`: if a run changed the database, it contains a write request. -/
theorem C17_only_writes_change (ck : Chunking) (cfg : Names) (fail : Oracle) (h : History) (db : DB)
    (hch : (run ck cfg fail h db).2 ≠ db) : ∃ x ∈ h, x.2.isRead = false := by
  apply Classical.byContradiction
  intro hno
  apply hch
  apply C17_readonly
  intro x hx
  cases hr : x.2.isRead with
  | true => rfl
  | false => exact absurd ⟨x, hx, hr⟩ hno

namespace C17ex

def t (o : Nat) : Tuple := ⟨"doc", o, "viewer", .id 1⟩
def db : DB := { rows := [⟨10, 0, t 1⟩, ⟨20, 0, t 2⟩], maps := [(0, 1), (0, 2)] }

/-- Reads with never-seen names (77, 78), an unknown namespace, a negative size, a bad token. -/
def reads : History := [
  (0, .list (some { obj := some 77 }) 1 .empty), (0, .list (some { ns := some "nope" }) 0 .empty),
  (0, .listAll (some {}) 1), (0, .list (some {}) (-1) .empty), (0, .list (some {}) 2 .bad),
  (0, .pExists { sub := some (.id 78) }), (0, .readOnlyMap [77, 78, 79]), (0, .list none 0 .empty)]

-- `C17_readonly` on `reads`: the requests are answered (not all rejected) …
example : (run {} ["doc"] noFail reads db).1.map (·.status) = [.ok, .notFound, .ok, .bad, .bad, .ok, .ok, .bad] := by
  decide
-- … and leave both tables alone,
example : (run {} ["doc"] noFail reads db).2 = db := by decide
-- `C17_readOnly_mapper` is about a real distinction: the writing mapper does insert a never-seen name,
example : (mapStrings false {} noFail 0 [77] db).2.maps = [(0, 1), (0, 2), (0, 77)] := by decide
-- and so does a write request.
example : (step {} ["doc"] noFail 0 (.restCreate { ns := "doc", obj := 77, rel := "r", sid := some 78 } 5) db).2.maps
    = [(0, 1), (0, 2), (0, 78), (0, 77)] := by decide

end C17ex

end Keto.Store
