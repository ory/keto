/-
  C03 — errors and faults never turn into "allowed".

  Model: Keto/Model/Engine.lean; `checkIsMember` and `batchCheck` below model `Engine.CheckIsMember` and
  `Engine.BatchCheck` (internal/check/engine.go).  Spec: Keto/Spec/Membership.lean, Stratified.lean.
  Lemmas: Keto/Proofs/EngineSound.lean, EngineExact*.lean.
  Built alongside: `FactsTie.readCallShapes_tie` (Keto/Proofs/FactsTieRead.lean) — the storage reads a
  check uses fetch their rows through pop's `All` / `Exists`, which is what lets the model treat a
  storage operation as one call that fails or returns all rows.
-/
import Keto.Model.Engine
import Keto.Spec.Membership
import Keto.Spec.Positive
import Keto.Proofs.EngineSound
import Keto.Props.C01exact

namespace Keto

/-- `C01_sound_pos`, read for an arbitrary `E.fails`: no fault oracle turns an answer into `isMember` for
    a subject that is not a member (without `!`). -/
theorem C03_no_allow_pos (E : Env) (hc : Cfg.pos E.cfg) (g : Int) (fuel : Nat) (q : Tuple) (r : Int) :
    (check E g fuel q r).1.memb = .isMember → Mem E.cfg E.T q :=
  build_sound E hc fuel (.isAllowed q (effDepth r g) false) {} {} rfl {} _

/-- `Engine.CheckIsMember` (internal/check/engine.go). -/
def checkIsMember (res : Res) : Bool × Option ErrKind :=
  match res.err with
  | some e => (false, some e)
  | none => (res.memb == .isMember, none)

/-- An answer that carries an error is never "allowed". -/
theorem C03_single_error_never_allowed (res : Res) (h : res.err.isSome) : (checkIsMember res).1 = false := by
  unfold checkIsMember
  split
  · rfl
  · next hn => rw [hn] at h; cases h

/-- `checkInverted` never turns a result that carries an error into a membership. -/
theorem C03_invert_keeps_error (r : Res) (h : r.err.isSome) :
    (invertRes r).memb = .unknown ∧ (invertRes r).err = r.err := by
  unfold invertRes
  split
  · next e he => exact ⟨rfl, he.symm⟩
  · next hn => rw [hn] at h; cases h

/-- `and` never answers isMember together with an error; `or`/groups only pass on what a child
    produced (`orRun_inv`, `GInv.gAdd` in Keto/Proofs/EngineSound.lean). -/
theorem C03_and_error_not_member (ths : List Thunk) (c : Ctx) (w : World) :
    (andRun ths c w).1.err.isSome → (andRun ths c w).1.memb ≠ .isMember := by
  unfold andRun
  split
  · intro h; cases h
  · exact andLoop_err ths c w

/-- Every configuration, `!` included: a check result that carries an error is never `isMember`. -/
theorem C03_error_never_member (E : Env) (g : Int) (fuel : Nat) (q : Tuple) (r : Int) :
    (check E g fuel q r).1.err.isSome → (check E g fuel q r).1.memb ≠ .isMember :=
  build_err_not_member E fuel (.isAllowed q (effDepth r g) false) {} {} {} _

/-- … hence `CheckIsMember` answers `true` only for an error-free `isMember` result. -/
theorem C03_checkIsMember_true (E : Env) (g : Int) (fuel : Nat) (q : Tuple) (r : Int) :
    (checkIsMember (check E g fuel q r).1).1 = true →
      (check E g fuel q r).1 = Res.isM := by
  unfold checkIsMember
  split
  · intro h; cases h
  · next hn =>
    intro h
    exact Res.eq_mk (by simpa using h) hn

namespace C03ex

/-- `doc.view = viewers.includes || parents.traverse(p => p.view)`, `folder.view = viewers.includes`. -/
def cfg : Cfg := [
  ⟨"doc", [⟨"viewers", [⟨"user", ""⟩], none⟩,
           ⟨"parents", [⟨"folder", ""⟩], none⟩,
           ⟨"view", [], some ⟨.or, [.computed "viewers", .ttu "parents" "view"]⟩⟩]⟩,
  ⟨"folder", [⟨"viewers", [⟨"user", ""⟩], none⟩,
              ⟨"view", [], some ⟨.or, [.computed "viewers"]⟩⟩]⟩]

def T : List Tuple :=
  [⟨"doc", 1, "parents", .set "folder" 2 ""⟩,
   ⟨"folder", 2, "viewers", .id 7⟩,
   ⟨"doc", 1, "viewers", .id 8⟩]

/-- Every storage call from the `k`-th on fails (`k = 0`: no faults). -/
def env (k : Nat) : Env where
  cfg := cfg
  strict := false
  maxWidth := 100
  T := T
  fails := fun i => k != 0 && k ≤ i
  pageSize := 100

def q : Tuple := ⟨"doc", 1, "view", .id 7⟩

end C03ex

-- `C03_no_allow_pos` / `C03_error_never_member`: the member is found without faults; with a failing
-- storage the answer carries an error and `CheckIsMember` says "not allowed".
example : Cfg.pos (C03ex.env 0).cfg ∧
    (check (C03ex.env 0) 5 200 C03ex.q 0).1 = Res.isM ∧
    (check (C03ex.env 1) 5 200 C03ex.q 0).1 = Res.error .storage ∧
    (check (C03ex.env 2) 5 200 C03ex.q 0).1.err.isSome ∧
    (checkIsMember (check (C03ex.env 2) 5 200 C03ex.q 0).1).1 = false :=
  ⟨Cfg.pos_of_posB (by decide), by decide, by decide, by decide, by decide⟩

-- `C03_single_error_never_allowed`, `C03_invert_keeps_error`, `C03_and_error_not_member`: hypotheses met.
example : (checkIsMember (Res.error .storage)).1 = false ∧ (checkIsMember Res.isM).1 = true ∧
    invertRes ⟨.isMember, some .storage⟩ = Res.error .storage ∧ invertRes Res.nm = Res.isM ∧
    (andRun [constT Res.isM, constT ⟨.isMember, some .storage⟩] {} {}).1 = ⟨.notMember, some .storage⟩ ∧
    (andRun [constT Res.isM, constT Res.isM] {} {}).1 = Res.isM := by decide

/-- `C01_exact_all_iff`, read for an arbitrary `E.fails` (every position, kind and number of failing
    storage operations): a run without error and limit event answers the stratified semantics of the
    fault-free store, so a storage failure can only surface as an error or a limit event, never as a
    different answer. -/
theorem C03_fault_answer_exact_all (E : Env) (hs : E.strict = true → conforms E.cfg E.T = true)
    (g : Int) (fuel : Nat) (q : Tuple) (r : Int) :
    (check E g fuel q r).1.err = none → (check E g fuel q r).2.limitHits = 0 →
    ((check E g fuel q r).1.memb = .isMember ↔ Tr E.cfg E.T q) :=
  C01_exact_all_iff E hs g fuel q r

/-- Two runs that differ ONLY in their fault oracle, both without error and limit event, give the same
    decision. -/
theorem C03_fault_independent_all (E : Env) (fails' : Nat → Bool) (hs : E.strict = true → conforms E.cfg E.T = true)
    (g : Int) (fuel fuel' : Nat) (q : Tuple) (r : Int) :
    (check E g fuel q r).1.err = none → (check E g fuel q r).2.limitHits = 0 →
    (check { E with fails := fails' } g fuel' q r).1.err = none →
    (check { E with fails := fails' } g fuel' q r).2.limitHits = 0 →
    ((check { E with fails := fails' } g fuel' q r).1.memb = .isMember ↔ (check E g fuel q r).1.memb = .isMember) := by
  intro h1 h2 h3 h4
  have a := C01_exact_all_iff E hs g fuel q r h1 h2
  have b := C01_exact_all_iff { E with fails := fails' } hs g fuel' q r h3 h4
  exact b.trans a.symm

/-! ### `Engine.BatchCheck`

One check per entry, results at the index of the entry. The entries run side by side and share the
storage, so which storage operations fail for which entry depends on the schedule: the model gives
every entry its OWN fault oracle (`fs`, any list), which covers every schedule and every position,
kind and number of failing operations of the batch. -/

/-- `Engine.BatchCheck` (internal/check/engine.go). -/
def batchCheck (E : Env) (g : Int) (fuel : Nat) (r : Int) : List (Tuple × (Nat → Bool)) → List Res
  | [] => []
  | (q, f) :: rest => (check { E with fails := f } g fuel q r).1 :: batchCheck E g fuel r rest

/-- One result per entry (the order is `C03_batch_pointwise`). -/
theorem C03_batch_length (E : Env) (g : Int) (fuel : Nat) (r : Int) (es : List (Tuple × (Nat → Bool))) :
    (batchCheck E g fuel r es).length = es.length := by
  induction es with
  | nil => rfl
  | cons e es ih => obtain ⟨q, f⟩ := e; simp [batchCheck, ih]

/-- Entry `i` of the batch is the check of entry `i` under that entry's faults. -/
theorem C03_batch_pointwise (E : Env) (g : Int) (fuel : Nat) (r : Int) (es : List (Tuple × (Nat → Bool)))
    (i : Nat) (h : i < es.length) :
    (batchCheck E g fuel r es)[i]? = some (check { E with fails := es[i].2 } g fuel es[i].1 r).1 := by
  induction es generalizing i with
  | nil => cases h
  | cons e es ih =>
    obtain ⟨q, f⟩ := e
    cases i with
    | zero => simp [batchCheck]
    | succ j =>
      have hj : j < es.length := by simpa using h
      simpa [batchCheck] using ih j hj

/-- Whatever fails wherever in the batch: an entry that carries an error is never `isMember`, and an
    entry without error and limit event answers the semantics of ITS relationship on the fault-free
    store. -/
theorem C03_batch_entries (E : Env) (hs : E.strict = true → conforms E.cfg E.T = true) (g : Int) (fuel : Nat) (r : Int)
    (es : List (Tuple × (Nat → Bool))) (i : Nat) (h : i < es.length) :
    ∃ res W, (batchCheck E g fuel r es)[i]? = some res ∧
      (res, W) = check { E with fails := es[i].2 } g fuel es[i].1 r ∧
      (res.err.isSome → res.memb ≠ .isMember) ∧
      (res.err = none → W.limitHits = 0 → (res.memb = .isMember ↔ Tr E.cfg E.T es[i].1)) := by
  refine ⟨(check { E with fails := es[i].2 } g fuel es[i].1 r).1, (check { E with fails := es[i].2 } g fuel es[i].1 r).2,
    C03_batch_pointwise E g fuel r es i h, rfl, ?_, ?_⟩
  · exact C03_error_never_member { E with fails := es[i].2 } g fuel es[i].1 r
  · exact C03_fault_answer_exact_all { E with fails := es[i].2 } hs g fuel es[i].1 r

-- `C03_batch_entries` on `C03ex`, the second entry with every storage operation failing.
example :
    batchCheck (C03ex.env 0) 5 200 0 [(C03ex.q, fun _ => false), (C03ex.q, fun _ => true)]
      = [Res.isM, Res.error .storage] := by decide

end Keto
