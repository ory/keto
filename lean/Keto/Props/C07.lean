/-
  C07 — pagination returns every matching relationship exactly once.

  Model: `getPage` (keyset pagination of `GetRelationTuples`: rows with `shard_id > last` in `shard_id`
  order, `LIMIT n+1`, drop the extra row, token = last returned id; `0 ⇒ Facts.defaultPageSize`; a
  negative size and a malformed token are errors), `follow` (a client following the tokens),
  `followI` (the same while the table changes between fetches).
  Side condition `WF`: the table is in `shard_id` order without duplicate ids and no id is `uuid.Nil`
  (primary key + `uuid.NewV4`; preserved by every request that gets fresh ids: `run_WF`).
  Lemmas: Keto/Proofs/StoreTable.lean (the table), Keto/Proofs/StoreLemmas.lean (requests).
-/
import Keto.Model.Store
import Keto.Proofs.StoreLemmas

namespace Keto.Store

/-- On a well-formed table, for every page size `≥ 0` (`0` = default), following the tokens from the empty token
    ends within any `fuel` above the number of matching rows; the pages concatenate to the matching rows in
    `shard_id` order, so every match is returned exactly once; every page has at most the page size of rows and
    the token is empty on the last page and only there (`PagesShape`). -/
theorem C07_static (s : Store) (hwf : WF s) (nid : Nat) (q : Query) (size : Int) (hsz : 0 ≤ size)
    (fuel : Nat) (hfuel : (matching nid q s).length < fuel) :
    ∃ ps, follow nid q size s fuel .empty = some ps
      ∧ pagesRows ps = matching nid q s
      ∧ PagesShape (perPage size) ps :=
  follow_matching hwf nid q size hsz fuel hfuel

theorem C07_listAll (s : Store) (hwf : WF s) (nid : Nat) (q : Query) (size : Int) (hsz : 0 ≤ size) :
    listAll nid q size s = some (matching nid q s) := by
  obtain ⟨ps, hps, hrows⟩ := follow_all hwf nid q size hsz
  unfold listAll
  rw [hps, Option.map_some, hrows]

/-- Exactly once, by counting: a stored row that matches occurs once in the pages, any other row never. -/
theorem C07_each_once (s : Store) (hwf : WF s) (nid : Nat) (q : Query) (size : Int) (hsz : 0 ≤ size)
    (ps : List Page) (h : follow nid q size s (s.length + 1) .empty = some ps) (r : Row) :
    (pagesRows ps).count r = if r ∈ s ∧ hits nid q r = true then 1 else 0 := by
  obtain ⟨ps', hps', hrows⟩ := follow_all hwf nid q size hsz
  rw [h] at hps'
  cases hps'
  rw [hrows]
  unfold matching
  rw [(hwf.1.filter _).nodup.count]
  simp [List.mem_filter]

/-- Interleaved writes: the i-th fetch sees the i-th table of `stores`.  A matching row `r` that is in every one of
    them (no write deleted it or changed its shard id) is in exactly one page, if the iteration ends.
    The invariant is `followI_count`. -/
theorem C07_interleaved (nid : Nat) (q : Query) (size : Int) (hsz : 0 ≤ size) (r : Row)
    (hr : hits nid q r = true) (stores : List Store)
    (hst : ∀ s ∈ stores, WF s ∧ r ∈ s) (ps : List Page)
    (h : followI nid q size .empty stores = some ps) :
    (pagesRows ps).count r = 1 := by
  cases stores with
  | nil => simp [followI] at h
  | cons s ss =>
    have hpos : 0 < r.shard := (hst s (by simp)).1.2 r (hst s (by simp)).2
    have := followI_count nid q size hsz r hr (s :: ss) (fun s' hs' => ⟨(hst s' hs').1.1, (hst s' hs').2⟩)
      .empty 0 ps rfl h
    rw [this, if_pos hpos]

/-- The same with the tables produced by the write histories `hs` (any requests, any fault oracle) that run
    between consecutive fetches, none of which names `r` for deletion (`Op.mayDelete`): inserts get fresh shard
    ids anywhere in the order and deletes hit other rows. -/
theorem C07_interleaved_histories (ck : Chunking) (hck : ck.pos) (cfg : Names) (fail : Oracle)
    (nid : Nat) (q : Query) (size : Int) (hsz : 0 ≤ size) (db : DB) (hwf : WF db.rows)
    (r : Row) (hr : r ∈ db.rows) (hq : hits nid q r = true)
    (hs : List History) (hfresh : FreshRuns ck cfg fail db hs)
    (hspare : ∀ h ∈ hs, ∀ x ∈ h, x.2.mayDelete x.1 r = false)
    (ps : List Page) (h : followI nid q size .empty (storesOf ck cfg fail db hs) = some ps) :
    (pagesRows ps).count r = 1 :=
  C07_interleaved nid q size hsz r hq _ (storesOf_inv ck hck cfg fail r hs db hwf hr hfresh hspare) ps h

/-- `persistence.ErrMalformedPageSize`, a 400. -/
theorem C07_negative_size_rejected (nid : Nat) (q : Query) (size : Int) (hneg : size < 0) (tok : Token) (s : Store) :
    getPage nid q size tok s = .error .badSize := by
  unfold getPage
  rw [if_pos hneg]

/-- The same through the API.  `hq`: the namespace lookups of `FromQuery` succeed (an unknown namespace is
    answered 404 before the page size is looked at). -/
theorem C07_negative_size_rejected_api (ck : Chunking) (cfg : Names) (nid : Nat) (q : Query) (size : Int)
    (hneg : size < 0) (tok : Token) (db : DB) (hq : fromQuery cfg q = .ok q) :
    listReq ck cfg nid (some q) size tok db = ({ status := .bad }, db) := by
  simp [listReq_some, hq, pList, C07_negative_size_rejected nid q size hneg]

/-- `persistence.ErrMalformedPageToken`, a client error.  For `0 ≤ size`: a negative size is reported first. -/
theorem C07_bad_token_rejected (nid : Nat) (q : Query) (size : Int) (hsz : 0 ≤ size) (s : Store) :
    getPage nid q size .bad s = .error .badToken := by
  unfold getPage
  have : ¬ size < 0 := by omega
  simp [this, tokLast]

/-- The same through the API, for every size (either way a 400); `hq` as above. -/
theorem C07_bad_token_rejected_api (ck : Chunking) (cfg : Names) (nid : Nat) (q : Query) (size : Int)
    (db : DB) (hq : fromQuery cfg q = .ok q) :
    listReq ck cfg nid (some q) size .bad db = ({ status := .bad }, db) := by
  by_cases h : size < 0
  · exact C07_negative_size_rejected_api ck cfg nid q size h .bad db hq
  · simp [listReq_some, hq, pList, C07_bad_token_rejected nid q size (by omega)]

namespace C07ex

def t (o : Nat) : Tuple := ⟨"doc", o, "viewer", .id 1⟩

/-- Five rows of network 0 and one of network 1, in shard order. -/
def table : Store := [⟨3, 0, t 1⟩, ⟨5, 0, t 2⟩, ⟨6, 1, t 9⟩, ⟨8, 0, t 3⟩, ⟨9, 0, t 4⟩, ⟨12, 0, t 5⟩]

theorem table_WF : WF table := by
  unfold WF Sorted
  decide

def shape (ps : Option (List Page)) : Option (List (List Nat × Option Nat)) :=
  ps.map (·.map fun p => (p.rows.map (·.shard), p.next))

-- `C07_static`: page size 2 over the 5 rows of network 0 gives three pages, two tokens.
example : shape (follow 0 {} 2 table 6 .empty) = some [([3, 5], some 5), ([8, 9], some 9), ([12], none)] := by
  decide
-- Page size = number of matches: one full page and no token (the extra row of `LIMIT n+1` is missing).
example : shape (follow 0 {} 5 table 6 .empty) = some [([3, 5, 8, 9, 12], none)] := by decide
-- Page size 0 means the default.
example : perPage 0 = Facts.defaultPageSize ∧ shape (follow 0 {} 0 table 6 .empty) = some [([3, 5, 8, 9, 12], none)] := by
  decide
-- The hypothesis `hfuel` matters: too little fuel is reported, not hidden.
example : follow 0 {} 2 table 2 .empty = none := by decide

/-- Between the first and the second fetch row 5 (already returned) is deleted, a row with a smaller id (4)
    and one with a larger id (10) are inserted. -/
def table2 : Store := [⟨3, 0, t 1⟩, ⟨4, 0, t 7⟩, ⟨6, 1, t 9⟩, ⟨8, 0, t 3⟩, ⟨9, 0, t 4⟩, ⟨10, 0, t 8⟩, ⟨12, 0, t 5⟩]

-- `C07_interleaved`: the untouched rows 3, 8, 9, 12 are each returned once; the row inserted behind the cursor
-- (4) is not returned, the one inserted ahead (10) is.
example : shape (followI 0 {} 2 .empty [table, table2, table2]) =
    some [([3, 5], some 5), ([8, 9], some 9), ([10, 12], none)] := by decide

-- `C07_interleaved_histories`: the same tables, produced by a Persister delete and a write after the first fetch.
def between : History := [(0, .pDelete [t 2]), (0, .pWrite [(t 7, 4), (t 8, 10)])]
example : storesOf {} ["doc"] noFail ⟨table, []⟩ [between, []] = [table, table2, table2] := by decide
-- Its hypothesis `hspare` holds for the untouched row 8 …
example : ∀ x ∈ between, x.2.mayDelete x.1 ⟨8, 0, t 3⟩ = false := by decide
-- … and fails for the deleted row 5.
example : (between.any fun x => x.2.mayDelete x.1 ⟨5, 0, t 2⟩) = true := by decide

-- `C07_negative_size_rejected`.
example : getPage 0 {} (-1) .empty table = .error .badSize := by rfl
-- `C07_bad_token_rejected`.
example : getPage 0 {} 2 .bad table = .error .badToken := by rfl
-- `C07_negative_size_rejected_api`.
example : listReq {} ["doc"] 0 (some {}) (-1) .empty ⟨table, []⟩ = ({ status := .bad }, ⟨table, []⟩) := by decide

end C07ex

end Keto.Store
