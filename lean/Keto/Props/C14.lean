/-
  C14 — concurrent requests do not interfere with each other.

  Model: Keto/Model/Concurrency.lean; a schedule is ANY list of request ids (any length, any order; a turn of a
  request whose program is finished is a no-op). Lemmas: Keto/Proofs/ConcLemmas.lean. Fact ties:
  Keto/Proofs/FactsTieConc.lean, Keto/Proofs/FactsTieEngine.lean.

  NOT proved: that requests are free of data races. That half of the property is sampled by the Go race detector
  (stream `conc-race`), a test. The abstraction of a request into steps that write its own local state or publish
  a request-independent registry cell is read off the code, not derived.

  Hypotheses that recur:
    `Consistent S s`      every registry cell is absent or holds what its lazy getter creates; holds for
                          the empty registry and for the prewarmed one, preserved by every step
                          (`C14_cells_consistent`)
    `∀ r, s.pcs r = 0`    no request has started
-/
import Keto.Model.Concurrency
import Keto.Proofs.ConcLemmas
import Keto.Proofs.FactsTieConc
import Keto.Proofs.FactsTieEngine

namespace Keto
open Conc

/-- Non-interference: after ANY schedule, the local state of request `r` is what `r` alone computes with as many
    steps as it had turns. -/
theorem C14_noninterference {L : Type} (S : Sys L) (s : State L) (sched : List Nat)
    (hcons : Consistent S s) (hpc : ∀ r, s.pcs r = 0) :
    ∀ r, (exec S s sched).locals r = solo S (S.prog r) (sched.count r) (s.locals r) := by
  intro r
  rw [exec_locals S s sched hcons r, hpc r, List.drop_zero]

theorem C14_progress {L : Type} (S : Sys L) (s : State L) (sched : List Nat)
    (hpc : ∀ r, s.pcs r = 0) :
    ∀ r, (exec S s sched).pcs r = min (S.prog r).length (sched.count r) := by
  intro r
  simp [exec_pcs S s sched r, hpc r]

/-- `hfair`: every request gets at least as many turns as its program is long. -/
theorem C14_complete_runs {L : Type} (S : Sys L) (s : State L) (sched : List Nat)
    (hcons : Consistent S s) (hpc : ∀ r, s.pcs r = 0)
    (hfair : ∀ r, (S.prog r).length ≤ sched.count r) :
    ∀ r, (exec S s sched).locals r = solo S (S.prog r) (S.prog r).length (s.locals r) := by
  intro r
  rw [C14_noninterference S s sched hcons hpc r]
  exact solo_of_length_le S (S.prog r) _ _ (hfair r)

/-- Two schedules that both complete all requests give every request the same result. -/
theorem C14_schedule_independent {L : Type} (S : Sys L) (s : State L) (sched₁ sched₂ : List Nat)
    (hcons : Consistent S s) (hpc : ∀ r, s.pcs r = 0)
    (hfair₁ : ∀ r, (S.prog r).length ≤ sched₁.count r)
    (hfair₂ : ∀ r, (S.prog r).length ≤ sched₂.count r) :
    ∀ r, (exec S s sched₁).locals r = (exec S s sched₂).locals r := by
  intro r
  rw [C14_complete_runs S s sched₁ hcons hpc hfair₁ r, C14_complete_runs S s sched₂ hcons hpc hfair₂ r]

/-- The answer of `r` does not depend on what the OTHER requests are: their programs and initial local states
    may differ between the two systems. -/
theorem C14_other_requests_irrelevant {L : Type} (S S' : Sys L) (s s' : State L) (sched : List Nat)
    (hcons : Consistent S s) (hcons' : Consistent S' s')
    (hpc : ∀ r, s.pcs r = 0) (hpc' : ∀ r, s'.pcs r = 0) (r : Nat)
    (hsnap : S.snap = S'.snap) (hcreate : S.create = S'.create) (hprog : S.prog r = S'.prog r)
    (hloc : s.locals r = s'.locals r) :
    (exec S s sched).locals r = (exec S' s' sched).locals r := by
  rw [C14_noninterference S s sched hcons hpc r, C14_noninterference S' s' sched hcons' hpc' r,
    hprog, hloc, solo_eq_foldl, solo_eq_foldl, Step.run_congr hsnap hcreate]

theorem C14_cells_consistent {L : Type} (S : Sys L) (s : State L) (sched : List Nat)
    (hcons : Consistent S s) : Consistent S (exec S s sched) :=
  exec_consistent S s sched hcons

/-- `Consistent` is satisfiable without prewarming. -/
theorem C14_empty_consistent {L : Type} (S : Sys L) (locals : Nat → L) :
    Consistent S { cells := fun _ => none, locals := locals, pcs := fun _ => 0 } := by
  intro c v h
  cases h

/-- `hwarm`: every cell that any program uses is created in Init (tied to the sources by `C14_prewarm_tie`).
    Requests then only READ the registry. -/
theorem C14_prewarmed_readonly {L : Type} (S : Sys L) (s : State L) (sched : List Nat)
    (hwarm : ∀ c, (∃ r f, Step.useCell c f ∈ S.prog r) → s.cells c = some (S.create c)) :
    (exec S s sched).cells = s.cells :=
  exec_cells_prewarmed S s sched hwarm

/-- Without prewarming the only write a cell ever sees is absent ↦ what the getter creates (the
    benign-looking but unsynchronised lazy initialisation of known_findings.json, `fixed`, C14). -/
theorem C14_lazy_cells_write_once {L : Type} (S : Sys L) (s : State L) (sched : List Nat)
    (hcons : Consistent S s) (c : Cell) :
    (exec S s sched).cells c = s.cells c ∨
      (s.cells c = none ∧ (exec S s sched).cells c = some (S.create c)) := by
  cases hc : s.cells c with
  | some v => exact .inl (exec_cells_some S s sched hc)
  | none =>
    cases he : (exec S s sched).cells c with
    | none => exact .inl rfl
    | some v => exact .inr ⟨rfl, by rw [exec_consistent S s sched hcons c v he]⟩

/-! ### ties to the sources -/

/-- The body of `RegistryDefault.Init` calls the getter of every registry member on a request path. That `Init`
    runs before the first request is served is not part of the table. -/
theorem C14_prewarm_tie :
    FactsTie.requestPathGetters.all (fun g =>
      Facts.initCalls.contains ("internal/driver/registry_default.go", "RegistryDefault.Init", g)) = true :=
  Keto.FactsTie.prewarm_tie
/-- The lazy getters of the registry and whether each is guarded. Which of them requests reach is not recorded
    (`requestPathGetters` is a hand-written list). -/
theorem C14_lazyInit_tie : Facts.lazyInit = FactsTie.expectedLazyInit := Keto.FactsTie.lazyInit_tie
/-- Which lock (write, read, none) each method of the namespace managers and of the visited set takes: the lock
    call in the method's body is recorded, not that every access in the body happens under it. `C19_lockUse_tie`
    is the same statement. -/
theorem C14_lockUse_tie : Facts.lockUse = FactsTie.expectedLockUse := Keto.FactsTie.lockUse_tie
/-- The only field of the check engine and of the expand engine is the dependency provider: an engine field that
    a request writes - a cache, a coalescing group, a configuration resolved once - would be shared state the
    model does not have. State reachable THROUGH the provider is not recorded. -/
theorem C14_engine_stateless_tie : Facts.structFields = FactsTie.expectedStructFields := Keto.FactsTie.structFields_tie

/-! ### the premise matters: a step that writes a shared cell with a request-dependent value -/

namespace C14Variant

/-- Steps of the variant system: `put` writes a SHARED cell with a value computed from the request's
    local state (the thing the real code must not do); `get` reads it back. -/
inductive VStep where
  | put (c : Cell) (g : Nat → Val)
  | get (c : Cell) (f : Val → Nat → Nat)

structure VState where
  cells : Cell → Val
  locals : Nat → Nat
  pcs : Nat → Nat

def vstep (prog : Nat → List VStep) (s : VState) (r : Nat) : VState :=
  match (prog r)[s.pcs r]? with
  | none => s
  | some (.put c g) =>
    { s with cells := setFn s.cells c (g (s.locals r)), pcs := setFn s.pcs r (s.pcs r + 1) }
  | some (.get c f) =>
    { s with locals := setFn s.locals r (f (s.cells c) (s.locals r)), pcs := setFn s.pcs r (s.pcs r + 1) }

def vexec (prog : Nat → List VStep) (s : VState) : List Nat → VState
  | [] => s
  | r :: rs => vexec prog (vstep prog s r) rs

/-- Every request writes its id (its initial local state) into shared cell 0, then reads cell 0. -/
def prog : Nat → List VStep := fun _ => [.put 0 (fun l => l), .get 0 (fun v _ => v)]

def init : VState := { cells := fun _ => 0, locals := fun r => r, pcs := fun _ => 0 }

end C14Variant

open C14Variant in
/-- Refutes `C14_schedule_independent` for such steps (no finding: the engines have no such state,
    `C14_engine_stateless_tie`): request 1 alone reads back its own id 1; interleaved with request 2 (both
    schedules complete both requests) it reads 2. -/
theorem C14_shared_local_counterexample :
    (vexec prog init [1, 1]).locals 1 = 1 ∧
    (vexec prog init [1, 1, 2, 2]).locals 1 = 1 ∧
    (vexec prog init [1, 2, 1, 2]).locals 1 = 2 := by decide

/-! ### non-vacuity -/

namespace C14Example

/-- Two requests (ids 0 and 1; every other id has the same program as 1): request `r` adds the stored
    datum at its local state, then obtains registry member 7 and adds it, then (request 0 only)
    doubles. -/
def sys : Sys Nat where
  snap := fun k => k + 10
  create := fun c => c * 100
  prog := fun r =>
    if r = 0 then [.loc (fun d l => l + d l), .useCell 7 (fun v l => l + v), .loc (fun _ l => 2 * l)]
    else [.loc (fun d l => l + d l), .useCell 7 (fun v l => l + v)]

def cold : State Nat := { cells := fun _ => none, locals := fun r => r, pcs := fun _ => 0 }
def warm : State Nat :=
  { cells := fun c => if c = 7 then some 700 else none, locals := fun r => r, pcs := fun _ => 0 }

end C14Example

open C14Example in
-- the hypotheses `Consistent` and `pcs = 0` hold for the example states
example : Consistent sys cold ∧ Consistent sys warm ∧ (∀ r, cold.pcs r = 0) ∧ (∀ r, warm.pcs r = 0) := by
  refine ⟨C14_empty_consistent sys _, ?_, fun _ => rfl, fun _ => rfl⟩
  intro c v h
  simp only [warm] at h
  split at h
  · rename_i hc; subst hc; cases h; rfl
  · cases h

open C14Example in
-- conclusions of `C14_noninterference`, `C14_complete_runs`, `C14_prewarmed_readonly`, `C14_lazy_cells_write_once`
-- on a cold and on a prewarmed registry
example :
    (exec sys cold [0, 1, 1, 0, 0]).locals 0 = 1420 ∧ (exec sys cold [0, 1, 1, 0, 0]).locals 1 = 712 ∧
    (exec sys cold [1, 1, 0, 0, 0]).locals 0 = 1420 ∧ (exec sys cold [1, 1, 0, 0, 0]).locals 1 = 712 ∧
    (exec sys warm [1, 0, 0, 1, 0, 1, 1, 0]).locals 0 = 1420 ∧
    (exec sys warm [1, 0, 0, 1, 0, 1, 1, 0]).locals 1 = 712 ∧
    solo sys (sys.prog 0) 3 0 = 1420 ∧ solo sys (sys.prog 1) 2 1 = 712 ∧
    (exec sys cold [0, 1, 0]).locals 0 = solo sys (sys.prog 0) 2 0 ∧ solo sys (sys.prog 0) 2 0 = 710 ∧
    (exec sys cold [0, 1, 1, 0, 0]).cells 7 = some 700 ∧ (exec sys cold [0, 1]).cells 7 = none ∧
    (exec sys warm [0, 1, 1, 0, 0]).cells 7 = some 700 ∧ (exec sys warm [0, 1, 1, 0, 0]).cells 3 = none := by
  decide

end Keto
