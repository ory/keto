/-
  C15 — every check terminates: the nesting of `build` steps (the fuel the model needs) is bounded by
  a function of the effective depth and the namespace configuration only; cycles in the stored tuples
  and self-referential permissions do not matter.  (The NUMBER of steps depends on the size of the
  store too: Keto/Props/C15calls.lean.)

  Model: Keto/Model/Engine.lean.  Spec: Keto/Spec/Fuel.lean.  Lemmas: Keto/Proofs/EngineTermination.lean.
  Other parts of the property: the checkgroup (Keto/Props/C15cg.lean), the storage operations
  (C15calls.lean).  Not theorems: that a cancelled check returns promptly and that the goroutines of
  `CheckRelationTuple` and `checkInverted` are released — the stream `engine-life` observes the first
  with a timeout and the second by counting goroutines.  Built alongside:
  `FactsTie.chanSites_tie` (Keto/Proofs/FactsTieChan.lean), the capacities of the result channels of
  package `check`.
-/
import Keto.Model.Engine
import Keto.Spec.Fuel
import Keto.Proofs.EngineTermination

namespace Keto

/-- With `Call.need` fuel no call of the engine answers `diverged` (the model's "out of fuel"): neither
    the construction of the check nor any later run of the returned thunk. -/
theorem C15_build_terminates (E : Env) (fuel : Nat) (call : Call) (ctx : Ctx) (w : World)
    (h : call.need (Cfg.height E.cfg) ≤ fuel) (c' : Ctx) (w' : World) :
    ((build E fuel call ctx w).1 c' w').1.err ≠ some .diverged :=
  build_inv (NoErr.ok (by decide)) E (need_closed E _ (Nat.le_refl _)) fuel call ctx w h c' w'

/-- With `checkFuel c d = d * (Cfg.height c + 1) + 1` fuel — a function of the effective depth and the
    configuration's rewrite nesting height only — the model never gives up. -/
theorem C15_check_terminates (E : Env) (g : Int) (fuel : Nat) (q : Tuple) (r : Int)
    (h : fuel ≥ checkFuel E.cfg (effDepth r g)) : (check E g fuel q r).1.err ≠ some .diverged :=
  C15_build_terminates E fuel (.isAllowed q (effDepth r g) false) {} {} h {} _

/-- Fuel is an artefact of the model: any two amounts of fuel above the bound give the same answer and
    the same final world, so statements "for all fuel" about `check` are statements about one
    evaluation. -/
theorem C15_fuel_irrelevant (E : Env) (g : Int) (fuel₁ fuel₂ : Nat) (q : Tuple) (r : Int)
    (h₁ : fuel₁ ≥ checkFuel E.cfg (effDepth r g)) (h₂ : fuel₂ ≥ checkFuel E.cfg (effDepth r g)) :
    check E g fuel₁ q r = check E g fuel₂ q r := by
  unfold check
  rw [build_fuel_eq E _ (Nat.le_refl _) fuel₁ fuel₂ (.isAllowed q (effDepth r g) false) h₁ h₂]

namespace C15ex

/-- `group.member` may hold groups; `doc.p = a && p` refers to itself. -/
def cfg : Cfg := [
  ⟨"group", [⟨"member", [⟨"user", ""⟩, ⟨"group", "member"⟩], none⟩]⟩,
  ⟨"doc", [⟨"a", [⟨"user", ""⟩, ⟨"group", "member"⟩], none⟩,
           ⟨"p", [], some ⟨.and, [.computed "a", .computed "p"]⟩⟩]⟩]

/-- A cyclic store: group 1 is a member of group 2, which is a member of group 1. -/
def env : Env where
  cfg := cfg
  strict := false
  maxWidth := 100
  T := [⟨"group", 1, "member", .set "group" 2 "member"⟩,
        ⟨"group", 2, "member", .set "group" 1 "member"⟩,
        ⟨"doc", 1, "a", .set "group" 1 "member"⟩]
  fails := fun _ => false
  pageSize := 100

def qGroup : Tuple := ⟨"group", 1, "member", .id 7⟩
def qPerm : Tuple := ⟨"doc", 1, "p", .id 7⟩

end C15ex

-- `C15_check_terminates`: on a cyclic store and a self-referential permission the bound is
-- 5 * (3 + 1) + 1 = 21 and both checks return without `diverged` at exactly that fuel; fuel matters below
-- the bound (the self-referential permission with 5: `diverged`).
example : Cfg.height C15ex.cfg = 3 ∧ checkFuel C15ex.cfg (effDepth 0 5) = 21 ∧
    (check C15ex.env 5 21 C15ex.qGroup 0).1 = Res.nm ∧
    (check C15ex.env 5 21 C15ex.qPerm 0).1 = Res.nm ∧
    0 < (check C15ex.env 5 21 C15ex.qPerm 0).2.limitHits ∧
    (check C15ex.env 5 5 C15ex.qPerm 0).1.err = some .diverged := by decide

end Keto
