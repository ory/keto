/-
  C08 — all check transports agree with the engine and with each other.

  Model: Keto/Model/Handlers.lean (each transport as a function of an `Entry`: did the tuple decode, are its
  namespaces known, the engine's result; `decision` is the answer the engine stands for).  The engine's side: C03.
  Tie of the batch-size test: Keto/Proofs/FactsTieBatch.lean.

  The theorems about one entry are enumerations of all entries.  Not proved: that the handlers are these
  functions of an `Entry` (stream `hcheck`).
-/
import Keto.Model.Handlers
import Keto.Props.C03
import Keto.Proofs.FactsTieBatch

namespace Keto.H
open Keto

/-- What the engine guarantees about its results (`C03_error_never_member`): a result
    that carries an error is never `isMember`. -/
def EngOk (e : Entry) : Prop := e.eng.err.isSome → e.eng.memb ≠ .isMember

/-- Every transport reports the engine's decision, whether the tuple decoded and the namespace is known or not. -/
theorem C08_agree (e : Entry) (h : EngOk e) :
    (restMirror e).allowed = decision e ∧ (restOpen e).allowed = decision e ∧
    (restMirrorPost e).allowed = decision e ∧ (restOpenPost e).allowed = decision e ∧
    (grpcCheck e).allowed = decision e ∧ (batchEntry e).1 = decision e := by
  obtain ⟨tupleOk, nsKnown, ⟨memb, err⟩⟩ := e
  cases tupleOk <;> cases nsKnown
  -- only a decoded request in a known namespace looks at the engine's result
  case true.true =>
    cases err with
    | none => cases memb <;> decide
    | some k =>
      cases memb with
      | isMember => exact absurd rfl (h rfl)
      | _ => cases k <;> decide
  all_goals exact ⟨rfl, rfl, rfl, rfl, rfl, rfl⟩

/-- The engine results the model can produce satisfy `EngOk`. -/
theorem C08_engine_results_ok (E : Env) (g : Int) (fuel : Nat) (q : Tuple) (r : Int) (tupleOk nsKnown : Bool) :
    EngOk ⟨tupleOk, nsKnown, (check E g fuel q r).1⟩ :=
  fun herr => C03_error_never_member E g fuel q r herr

/-- The status-mirroring endpoints answer 200 exactly when allowed.  GET answers 403 only for a decoded tuple;
    POST also for an undecoded one in an unknown namespace (`postCheck` looks the namespace up before it validates
    the subject). -/
theorem C08_mirror_status (e : Entry) (h : EngOk e) :
    (restMirror e = .ok true ↔ decision e = true) ∧
    (restMirror e = .forbidden ↔ (e.tupleOk = true ∧ (e.nsKnown = false ∨ e.eng.err = none) ∧ decision e = false)) ∧
    restMirror e ≠ .ok false ∧
    (restMirrorPost e = .ok true ↔ decision e = true) ∧
    (restMirrorPost e = .forbidden ↔ ((e.nsKnown = false ∨ (e.tupleOk = true ∧ e.eng.err = none)) ∧ decision e = false)) ∧
    restMirrorPost e ≠ .ok false := by
  obtain ⟨tupleOk, nsKnown, ⟨memb, err⟩⟩ := e
  cases tupleOk <;> cases nsKnown
  case true.true =>
    cases err with
    | none => cases memb <;> decide
    | some k =>
      cases memb with
      | isMember => exact absurd rfl (h rfl)
      | _ => cases k <;> decide
  all_goals simp [restMirror, restMirrorPost, restCheck, restCheckPost, mirrorOf, decision]

theorem C08_unknown_namespace_never_allowed (e : Entry) (h : e.nsKnown = false) :
    (restMirror e).allowed = false ∧ (restOpen e).allowed = false ∧ (restMirrorPost e).allowed = false ∧
    (restOpenPost e).allowed = false ∧ (grpcCheck e).allowed = false ∧ (batchEntry e).1 = false := by
  obtain ⟨tupleOk, nsKnown, eng⟩ := e
  subst h
  cases tupleOk <;> exact ⟨rfl, rfl, rfl, rfl, rfl, rfl⟩

/-- Unfolds the model: `batch` is `List.map batchEntry`.  That the handlers answer in request order and that a bad
    entry affects only its own result is observed by the stream `hcheck`, not derived. -/
theorem C08_batch_pointwise (es : List Entry) :
    (batch es).length = es.length ∧
    ∀ (i : Nat) (h : i < es.length), (batch es)[i]? = some (batchEntry es[i]) := by
  constructor
  · simp [batch]
  · intro i h
    simp [batch, List.getElem?_map, List.getElem?_eq_getElem h]

/-- `C08_agree` under `List.map`. -/
theorem C08_batch_decisions (es : List Entry) (h : ∀ e ∈ es, EngOk e) :
    (batch es).map Prod.fst = es.map decision := by
  rw [batch, List.map_map]
  exact List.map_congr_left fun e he => (C08_agree e (h e he)).2.2.2.2.2

/-- A batch of at most the configured maximum, the maximum included, is answered entry by entry; a larger one is
    rejected as a whole.  Both batch entry points test `len(tuples) > BatchCheckMaxBatchSize()`
    (`Facts.batchGuards`). -/
theorem C08_batch_limit (max : Nat) (es : List Entry) :
    (es.length ≤ max → batchLimited max es = some (batch es)) ∧
    (max < es.length → batchLimited max es = none) ∧
    Facts.batchGuards = FactsTie.expectedBatchGuards := by
  refine ⟨fun h => ?_, fun h => ?_, FactsTie.batchGuards_tie⟩
  · simp [batchLimited, Nat.not_lt.mpr h]
  · simp [batchLimited, h]

-- `C08_batch_limit` at the default maximum 10 (from the configuration schema)
example : Facts.defaultMaxBatchCheckSize = 10 ∧
    (batchLimited Facts.defaultMaxBatchCheckSize (List.replicate 10 ⟨true, true, Res.isM⟩)).isSome = true ∧
    (batchLimited Facts.defaultMaxBatchCheckSize (List.replicate 11 ⟨true, true, Res.isM⟩)).isSome = false := by decide

-- `C08_batch_pointwise` on a mixed batch
example :
    batch [⟨true, true, Res.isM⟩, ⟨true, true, Res.nm⟩, ⟨true, false, Res.nm⟩, ⟨false, true, Res.nm⟩]
      = [(true, false), (false, false), (false, true), (false, true)] := by decide
-- `C08_mirror_status` and `grpcCheck` on concrete entries
example : restMirror ⟨true, true, Res.isM⟩ = .ok true ∧ restMirror ⟨true, true, Res.nm⟩ = .forbidden ∧
    restMirror ⟨true, false, Res.nm⟩ = .forbidden ∧ grpcCheck ⟨true, false, Res.nm⟩ = .notFound := by decide
-- the hypothesis `EngOk` of `C08_agree` is met by an engine error.
example : EngOk ⟨true, true, Res.error .storage⟩ := by simp [EngOk, Res.error]

end Keto.H
