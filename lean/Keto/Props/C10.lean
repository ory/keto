/-
  C10 — OPL permission expressions mean what the same TypeScript means.

  Spec: `Keto.TS.E` / `evalTS` / `render` (Keto/Spec/TSBool.lean): expression trees with the JavaScript precedence
  `! > && > ||`; `denoteRewrite`: the meaning of a parsed rewrite.
  Model: the parser model (Keto/Model/Parser.lean) run on the tokens of `render e` (`toksOf e`: atoms are the
  permission checks of the grammar in all their spellings).
  Lemmas: Keto/Proofs/OplExprLemmas.lean, OplDeclLemmas.lean, TSBoolLemmas.lean.

  Three deviations from TypeScript: findings F-prec, F-double-neg, F-array-comma. The lexer is not part of these
  statements: they start from items.
-/
import Keto.Spec.TSBool
import Keto.Proofs.OplExprLemmas
import Keto.Proofs.OplDeclLemmas
import Keto.Proofs.TSBoolLemmas

namespace Keto
open Keto.Opl Keto.TS

def atomVal (v : Child → Bool) (a : Atom) : Bool := v a.leaf

/-- `parsePermissionExpressions` builds the tree strictly left to right: on the tokens of `render e` and the final
    token it consumes exactly these, reports no error, and returns a rewrite whose meaning — also after
    `simplifyExpression` — is the left-to-right reading `evalL2R` of `e`. `fits`: nested within `depth`, no `!!`.
    The fuel `Parse` passes (remaining token count + 2) suffices. -/
theorem C10_expr_l2r (e : E Atom) (v : Child → Bool) (depth fuel : Nat) (p : P) (rest : List Item)
    (hfit : fits depth e) (hd : depth ≠ 0) (hf : p.fatal = false)
    (ht : p.toks = toksOf e ++ tComma :: rest) (hfuel : p.toks.length + 1 < fuel) :
    ∃ (rw : Rewrite) (p' : P),
      parsePermissionExpressions fuel .opComma depth p = (some rw, p') ∧
      p'.toks = rest ∧ p'.fatal = false ∧ p'.errors = p.errors ∧ p'.panic = p.panic ∧
      denoteRewrite v rw = evalL2R (atomVal v) e ∧
      ∃ rw', simplifyExpression (some rw) = some rw' ∧ denoteRewrite v rw' = evalL2R (atomVal v) e := by
  obtain ⟨rw, p', hp, htoks, hfr, hsem⟩ := parsePermissionExpressions_spec hfit hd hf ht hfuel
  exact ⟨rw, p', hp, htoks, hfr.fatal, hfr.errors, hfr.panic, hsem v, _, rfl, (denote_simplify v rw).trans (hsem v)⟩

/- The full statement:

    theorem C10_expr_full (e) (v) (depth fuel) (p) (rest) (hfit : fits depth e) … :
      ∃ rw rw' p', parsePermissionExpressions fuel .opComma depth p = (some rw, p') ∧
        simplifyExpression (some rw) = some rw' ∧ … ∧ denoteRewrite v rw' = evalTS (atomVal v) e

  Refuted by `C10_precedence_counterexample` (finding F-prec). -/

/-- Where no parenthesis level of `e` mixes `||` and `&&`, the parsed rewrite means what TypeScript means by
    `render e`. -/
theorem C10_expr_partial (e : E Atom) (v : Child → Bool) (depth fuel : Nat) (p : P) (rest : List Item)
    (hmix : mixed e = false) (hfit : fits depth e) (hd : depth ≠ 0) (hf : p.fatal = false)
    (ht : p.toks = toksOf e ++ tComma :: rest) (hfuel : p.toks.length + 1 < fuel) :
    ∃ (rw rw' : Rewrite) (p' : P),
      parsePermissionExpressions fuel .opComma depth p = (some rw, p') ∧
      simplifyExpression (some rw) = some rw' ∧
      p'.toks = rest ∧ p'.fatal = false ∧ p'.errors = p.errors ∧ p'.panic = p.panic ∧
      denoteRewrite v rw' = evalTS (atomVal v) e := by
  obtain ⟨rw, p', hp, htoks, hfr, hsem⟩ := parsePermissionExpressions_spec hfit hd hf ht hfuel
  exact ⟨rw, _, p', hp, rfl, htoks, hfr.fatal, hfr.errors, hfr.panic,
    (denote_simplify v rw).trans ((hsem v).trans (evalL2R_unmixed _ _ hmix))⟩

/-- `.name` and `["name"]`, `(v) =>` and `v =>`, optional trailing commas: every spelling of a permission check
    parses to the same leaf, consumes exactly its tokens and adds its deferred checks. -/
theorem C10_access (a : Atom) (hw : a.wf) (p : P) (rest : List Item) (hf : p.fatal = false)
    (ht : p.toks = a.toks ++ rest) : parsePermissionExpression p = (some a.leaf, afterAtom a rest p) :=
  parseAtom_spec a hw p rest hf ht

/-- One iteration of the `parseRelated` loop on `name: T[]` / `name: SubjectSet<N,"r">[]` / `name: (A | B | …)[]` /
    `name: Array<A | B | …>`, optionally followed by `,`: the tokens are consumed exactly, no error is reported, and
    the declared relation is appended to the current namespace. `Decl.wf`: the name lexes as an identifier or a
    string literal; a plain type name is none of `Array` / `SubjectSet` / `(`; `Array<…>` is not followed by `,`
    (`C10_array_comma_counterexample`). -/
theorem C10_decls (d : Decl) (hw : d.wf) (n : Nat) (hn : d.types.length ≤ n) (p : P) (rest : List Item)
    (hf : p.fatal = false) (ht : p.toks = d.toks ++ rest)
    (hc : d.comma = false → valIs (rest.headD brokenItem) b!"," = false) :
    ∃ p' : P, relatedLoop (n+1) p = relatedLoop n p' ∧
      p'.toks = rest ∧ p'.fatal = false ∧ p'.errors = p.errors ∧ p'.panic = p.panic ∧ p'.nss = p.nss ∧
      p'.ns = { p.ns with relations := p.ns.relations ++ [d.relation] } := by
  obtain ⟨p', h, heq⟩ := related_decl d hw n hn p rest hf ht hc
  exact ⟨p', heq, h.toks, h.fatal, h.errors, h.panic, h.nss, h.ns⟩

/-- `;` between declarations is skipped, `}` ends the block. -/
theorem C10_separators (n : Nat) (p : P) (rest : List Item) (hf : p.fatal = false) :
    (p.toks = tSemi :: rest → relatedLoop (n+1) p = relatedLoop n { p with toks := rest, steps := p.steps + 2 }) ∧
    (p.toks = tRBrace :: rest → relatedLoop (n+1) p = { p with toks := rest, steps := p.steps + 2 }) := by
  obtain ⟨toks, nss, ns, errors, fatal, checks, steps, panic⟩ := p
  subst hf
  constructor <;> intro ht <;> simp only at ht <;> subst ht <;> rw [relatedLoop] <;>
    simp [P.tick, P.next, tSemi, tRBrace, Nat.add_assoc]

namespace C10ex

def nm (s : List UInt8) : Item := tId s
def a : E Atom := .atom (.includes false (nm b!"a"))
def b : E Atom := .atom (.includes false (nm b!"b"))
def c : E Atom := .atom (.includes true (tk .stringLiteral b!"c"))

/-- `a || b && c` -/
def orAnd : E Atom := .or a (.and b c)

/-- `a` holds, `b` and `c` do not. -/
def onlyA : Child → Bool
  | .computed r => r == "a"
  | _ => false

/-- The expression phase of `Parse` on the tokens of `render e` followed by `,`. -/
def parseExpr (e : E Atom) : Option Rewrite × P :=
  let toks := toksOf e ++ [tComma]
  let r := parsePermissionExpressions (toks.length + 2) .opComma Keto.Facts.expressionNestingMaxDepth { toks := toks }
  (simplifyExpression r.1, r.2)

end C10ex

open C10ex in
/-- Refutes `C10_expr_full` (finding F-prec): `a || b && c` is accepted and parsed as `(a || b) && c`; with only
    `a` true the rewrite is false, TypeScript's value is true. -/
theorem C10_precedence_counterexample :
    ∃ rw, (parseExpr orAnd).1 = some rw ∧ (parseExpr orAnd).2.errors = [] ∧
      denoteRewrite onlyA rw = false ∧ evalTS (atomVal onlyA) orAnd = true ∧ mixed orAnd = true :=
  ⟨_, rfl, by decide, by decide, by decide, by decide⟩

open C10ex in
/-- Without the no-`!!` clause of `fits` (finding F-double-neg): `!!a` is valid TypeScript; the parser rejects it
    (`expected "this", got "!"`). -/
theorem C10_double_negation_counterexample :
    (parseExpr (.not (.not a))).1 = none ∧ (parseExpr (.not (.not a))).2.errors.length = 1 := by decide

-- the hypotheses of `C10_expr_partial` hold of `(a || b) && !c`, with the real nesting limit
open C10ex in
example : mixed (.and (.or a b) (.not c)) = false ∧ fits Keto.Facts.expressionNestingMaxDepth (.and (.or a b) (.not c)) := by
  refine ⟨by decide, ?_⟩
  simp [fits, prec, a, b, c, Atom.wf, Keto.Facts.expressionNestingMaxDepth]

-- … and its conclusion is what the model computes
open C10ex in
example : ∃ rw, (parseExpr (.and (.or a b) (.not c))).1 = some rw ∧
    denoteRewrite onlyA rw = evalTS (atomVal onlyA) (.and (.or a b) (.not c)) := ⟨_, rfl, by decide⟩

-- the conclusion of `C10_expr_l2r` on the mixed witness `a || b && c`
open C10ex in
example : ∃ rw, (parseExpr orAnd).1 = some rw ∧ denoteRewrite onlyA rw = evalL2R (atomVal onlyA) orAnd :=
  ⟨_, rfl, by decide⟩

open C10ex in
/-- Without the `Array<…>` clause of `Decl.wf` (finding F-array-comma): `d: Array<A>,` is rejected (`expected
    identifier or '}'`), `d: A[],` is accepted. -/
theorem C10_array_comma_counterexample :
    (parseItems ([tk .kwClass b!"class", nm b!"A", tk .kwImplements b!"implements", nm b!"Namespace", tLBrace,
        nm b!"related", tColon, tLBrace, nm b!"d", tColon, nm b!"Array", tLT, nm b!"A", tGT, tComma, tRBrace, tRBrace,
        tk .eof []])).errors.map (·.kind) = [.expectedIdentOrBrace] ∧
    (parseItems ([tk .kwClass b!"class", nm b!"A", tk .kwImplements b!"implements", nm b!"Namespace", tLBrace,
        nm b!"related", tColon, tLBrace, nm b!"d", tColon, nm b!"A", tLB, tRB, tComma, tRBrace, tRBrace,
        tk .eof []])).errors = [] := by decide

-- `Decl.wf` of `C10_decls` holds of `viewers: (User | SubjectSet<Group, "members">)[],`
open C10ex in
example : (Decl.mk (nm b!"viewers") [.plain (nm b!"User"), .sset (nm b!"Group") (tk .stringLiteral b!"members")] .paren true).wf ∧
    (Decl.mk (nm b!"viewers") [.plain (nm b!"User"), .sset (nm b!"Group") (tk .stringLiteral b!"members")] .paren true).relation.types
      = [⟨"User", ""⟩, ⟨"Group", "members"⟩] := by
  refine ⟨⟨Or.inl rfl, by simp, ?_, trivial⟩, by decide⟩
  intro t ht
  simp at ht
  rcases ht with rfl | rfl
  · show valIs _ _ = false
    decide
  · trivial

-- `C10_access`: two spellings, one leaf
example : (Atom.includes false (tId b!"viewers")).leaf = (Atom.includes true (tk .stringLiteral b!"viewers")).leaf := rfl

end Keto
