/-
  C18 — relationship encodings are faithful on their documented domains.

  Model: Keto/Model/Encoding.lean, over `List Char`, i.e. over all valid-UTF-8 Go strings.
  Lemmas: Keto/Proofs/EncodingLemmas.lean.

  Not proved: that the model is what `ketoapi` does (`net/url` escaping, `encoding/json`, the protobuf wire
  format included) — the correspondence stream `enc` runs the real code.
-/
import Keto.Model.Encoding
import Keto.Proofs.EncodingLemmas
import Keto.Generated.Facts

namespace Keto
open Keto.Enc

/-- The keys and `omitempty` flags the JSON model encodes are the struct tags of
    `ketoapi.RelationTuple`, `SubjectSet`, `RelationQuery` as the translator reads them from the sources on every
    run; the table records tags, not what `encoding/json` does with them. -/
theorem C18_json_tags_tie :
    Facts.jsonTags = [
      ("RelationTuple", "Namespace", "json:\"namespace\""),
      ("RelationTuple", "Object", "json:\"object\""),
      ("RelationTuple", "Relation", "json:\"relation\""),
      ("RelationTuple", "SubjectID", "json:\"subject_id,omitempty\""),
      ("RelationTuple", "SubjectSet", "json:\"subject_set,omitempty\""),
      ("SubjectSet", "Namespace", "json:\"namespace\""),
      ("SubjectSet", "Object", "json:\"object\""),
      ("SubjectSet", "Relation", "json:\"relation\""),
      ("RelationQuery", "Namespace", "json:\"namespace\""),
      ("RelationQuery", "Object", "json:\"object\""),
      ("RelationQuery", "Relation", "json:\"relation\""),
      ("RelationQuery", "SubjectID", "json:\"subject_id,omitempty\""),
      ("RelationQuery", "SubjectSet", "json:\"subject_set,omitempty\"")] := rfl

/-- … and the model's keys are these strings. -/
theorem C18_json_keys :
    String.ofList kNamespace = "namespace" ∧ String.ofList kObject = "object" ∧
    String.ofList kRelation = "relation" ∧ String.ofList kSubjectID = "subject_id" ∧
    String.ofList kSubjectSet = "subject_set" ∧
    String.ofList kSSNamespace = "subject_set.namespace" ∧
    String.ofList kSSObject = "subject_set.object" ∧
    String.ofList kSSRelation = "subject_set.relation" ∧ String.ofList kSubject = "subject" :=
  ⟨rfl, rfl, rfl, rfl, rfl, rfl, rfl, rfl, rfl⟩

/-- URL query round trip for queries: any subset of the fields, at most one subject kind. -/
theorem C18_url_query (q : RelationQuery) (h : q.atMostOneSubject = true) :
    RelationQuery.fromURLQuery q.toURLQuery = .ok q := by
  obtain ⟨ns, obj, rel, sid, sset⟩ := q
  -- the decoder only looks keys up, so `ns`, `obj`, `rel` need no case split; the comparisons of the
  -- (literal) keys are decided
  simp only [RelationQuery.fromURLQuery, Values.has_eq, Values.get_eq]
  cases sid <;> cases sset <;> simp [RelationQuery.atMostOneSubject] at h <;>
    simp +decide [RelationQuery.toURLQuery, optGet_optAdd, optGet_add, optGet_nil]

-- `C18_url_query` on absent, empty and separator-carrying fields
example : RelationQuery.fromURLQuery
    (RelationQuery.toURLQuery ⟨none, some [], some "r@".toList, some ":".toList, none⟩)
    = .ok ⟨none, some [], some "r@".toList, some ":".toList, none⟩ :=
  C18_url_query _ (by decide)

/-- URL query round trip for tuples with exactly one subject kind, whatever the field contents. -/
theorem C18_url_tuple (t : RelationTuple) (h : t.oneSubject = true) :
    RelationTuple.fromURLQuery t.toURLQuery = .ok t := by
  obtain ⟨ns, obj, rel, sid, sset⟩ := t
  have hq : RelationQuery.atMostOneSubject ⟨some ns, some obj, some rel, sid, sset⟩ = true := by
    cases sid <;> cases sset <;> first | rfl | cases h
  rw [RelationTuple.fromURLQuery, RelationTuple.toURLQuery, C18_url_query _ hq]
  cases sid <;> cases sset <;> first | rfl | cases h

-- `C18_url_tuple` on separators, empty strings and non-ASCII text
example : RelationTuple.fromURLQuery
    (RelationTuple.toURLQuery ⟨"a:b#c@d".toList, [], "&=%+ ü".toList, none, some ⟨[], "(#)".toList, []⟩⟩)
    = .ok ⟨"a:b#c@d".toList, [], "&=%+ ü".toList, none, some ⟨[], "(#)".toList, []⟩⟩ :=
  C18_url_tuple _ (by decide)

/-- The hypothesis is needed: with both subject kinds set the subject id wins, with none
    the decoder answers `ErrNilSubject`. -/
theorem C18_url_tuple_side_condition :
    RelationTuple.fromURLQuery (RelationTuple.toURLQuery ⟨['n'], ['o'], ['r'], some ['i'], some ⟨['a'], ['b'], ['c']⟩⟩)
      = .ok ⟨['n'], ['o'], ['r'], some ['i'], none⟩ ∧
    RelationTuple.fromURLQuery (RelationTuple.toURLQuery ⟨['n'], ['o'], ['r'], none, none⟩)
      = .err .nilSubject := by decide

/-- Proto round trip for tuples (`ToProto` then `FromDataProvider`, and `FromProto`). -/
theorem C18_proto_tuple (t : RelationTuple) (h : t.oneSubject = true) :
    ∃ p, t.toProto = .ok p ∧ RelationTuple.fromDataProvider p = .ok t ∧
      RelationTuple.fromProto p = .ok t := by
  obtain ⟨ns, obj, rel, sid, sset⟩ := t
  cases sid <;> cases sset <;> simp [RelationTuple.oneSubject] at h
  · exact ⟨_, rfl, rfl, rfl⟩
  · exact ⟨_, rfl, rfl, rfl⟩

-- `C18_proto_tuple` on an empty subject id and separators in the object
example : ∃ p, (RelationTuple.mk [] ":#@".toList [] (some []) none).toProto = .ok p ∧
    RelationTuple.fromDataProvider p = .ok ⟨[], ":#@".toList, [], some [], none⟩ ∧
    RelationTuple.fromProto p = .ok ⟨[], ":#@".toList, [], some [], none⟩ :=
  C18_proto_tuple _ (by decide)

/-- Without a subject `ToProto` dereferences the nil subject set. -/
theorem C18_proto_tuple_side_condition :
    (RelationTuple.mk ['n'] ['o'] ['r'] none none).toProto = .err .panic := by decide

theorem C18_proto_query (q : RelationQuery) (h : q.atMostOneSubject = true) :
    RelationQuery.fromDataProvider q.toProto = .ok q := by
  obtain ⟨ns, obj, rel, sid, sset⟩ := q
  cases sid <;> cases sset <;> simp [RelationQuery.atMostOneSubject] at h <;> rfl

-- `C18_proto_query` on a subject set of empty strings
example : RelationQuery.fromDataProvider
    (RelationQuery.toProto ⟨some [], none, some "#".toList, none, some ⟨[], [], []⟩⟩)
    = .ok ⟨some [], none, some "#".toList, none, some ⟨[], [], []⟩⟩ :=
  C18_proto_query _ (by decide)

/-- JSON round trip for tuples, whatever the subject pointers are. -/
theorem C18_json_tuple (t : RelationTuple) : RelationTuple.fromJSON t.toJSON = .ok t := by
  obtain ⟨ns, obj, rel, sid, sset⟩ := t
  -- the three plain fields decode the same way whatever the subject pointers are: once, before the split
  simp +decide only [RelationTuple.fromJSON, RelationTuple.toJSON, List.cons_append, List.nil_append,
    RelationTuple.decFields, decLeafStr, decStr, ↓reduceIte]
  cases sid <;> cases sset <;>
    simp +decide [RelationTuple.decFields, omitEmptyStr, omitEmptySet, decOptStr_str, decOptSet_toJSONFields]

-- `C18_json_tuple` on characters JSON escapes, the text `null`, non-ASCII
example : RelationTuple.fromJSON
    (RelationTuple.toJSON ⟨[], "\"\\<>&".toList, "null".toList, none, some ⟨[], [], "é".toList⟩⟩)
    = .ok ⟨[], "\"\\<>&".toList, "null".toList, none, some ⟨[], [], "é".toList⟩⟩ :=
  C18_json_tuple _

/-- JSON round trip for queries (absent fields travel as `null` / are omitted). -/
theorem C18_json_query (q : RelationQuery) : RelationQuery.fromJSON q.toJSON = .ok q := by
  obtain ⟨ns, obj, rel, sid, sset⟩ := q
  simp +decide only [RelationQuery.fromJSON, RelationQuery.toJSON, List.cons_append, List.nil_append,
    RelationQuery.decFields, decOptStr_jOptStr, ↓reduceIte]
  cases sid <;> cases sset <;>
    simp +decide [RelationQuery.decFields, omitEmptyStr, omitEmptySet, decOptStr_str, decOptSet_toJSONFields]

-- `C18_json_query` on absent fields beside empty strings
example : RelationQuery.fromJSON
    (RelationQuery.toJSON ⟨none, some [], none, some [], none⟩) = .ok ⟨none, some [], none, some [], none⟩ :=
  C18_json_query _

/-- The subject kind survives the URL-query and the JSON codec.  An instance of `C18_url_tuple` and
    `C18_json_tuple`; protobuf is `C18_proto_tuple`, the string form `C18_parse_image`. -/
theorem C18_subject_kind_preserved (t : RelationTuple) (h : t.oneSubject = true) :
    (∃ t', RelationTuple.fromURLQuery t.toURLQuery = .ok t' ∧
      t'.subjectID.isSome = t.subjectID.isSome ∧ t'.subjectSet.isSome = t.subjectSet.isSome) ∧
    (∃ t', RelationTuple.fromJSON t.toJSON = .ok t' ∧
      t'.subjectID.isSome = t.subjectID.isSome ∧ t'.subjectSet.isSome = t.subjectSet.isSome) :=
  ⟨⟨t, C18_url_tuple t h, rfl, rfl⟩, ⟨t, C18_json_tuple t, rfl, rfl⟩⟩

/-- `FromString (String x) = x` on `DomString`: every field avoids its separator where that is significant and
    the subject neither starts nor ends with a parenthesis.  Free: `:` and `@` in objects, `#` `:` `@` in the
    subject-set relation, inner parentheses, empty fields, any Unicode. -/
theorem C18_string_dom (t : RelationTuple) (h : DomString t = true) :
    RelationTuple.fromStr t.toStr = .ok t :=
  RelationTuple.fromStr_toStr t h

-- the hypothesis of `C18_string_dom` is met with separators in the non-significant positions …
example : DomString ⟨"n#@(".toList, "o:@)".toList, ":#r(".toList, none,
    some ⟨"a@)".toList, "b:(@".toList, "#:@()x".toList⟩⟩ = true := by decide
-- … and the theorem applies.
example : RelationTuple.fromStr (RelationTuple.toStr ⟨"n#@(".toList, "o:@)".toList, ":#r(".toList, none,
    some ⟨"a@)".toList, "b:(@".toList, "#:@()x".toList⟩⟩)
    = .ok ⟨"n#@(".toList, "o:@)".toList, ":#r(".toList, none,
    some ⟨"a@)".toList, "b:(@".toList, "#:@()x".toList⟩⟩ :=
  C18_string_dom _ (by decide)
-- the hypothesis of `C18_string_dom` is met by a subject id with separators and inner parentheses.
example : DomString ⟨[], [], [], some "#@ü(x)y".toList, none⟩ = true := by decide

/-- Twelve tuples, one violating each condition of `DomString` and no other, that do not survive print /
    parse.  That the conditions are exact for every tuple is `C18_string_dom_iff`. -/
theorem C18_string_dom_tight :
    RelationTuple.fromStr (RelationTuple.toStr ⟨[':'], [], [], some [], none⟩) ≠ .ok ⟨[':'], [], [], some [], none⟩ ∧
    RelationTuple.fromStr (RelationTuple.toStr ⟨[], ['#'], [], some [], none⟩) ≠ .ok ⟨[], ['#'], [], some [], none⟩ ∧
    RelationTuple.fromStr (RelationTuple.toStr ⟨[], [], ['@'], some [], none⟩) ≠ .ok ⟨[], [], ['@'], some [], none⟩ ∧
    RelationTuple.fromStr (RelationTuple.toStr ⟨[], [], [], some [':'], none⟩) ≠ .ok ⟨[], [], [], some [':'], none⟩ ∧
    RelationTuple.fromStr (RelationTuple.toStr ⟨[], [], [], some ['('], none⟩) ≠ .ok ⟨[], [], [], some ['('], none⟩ ∧
    RelationTuple.fromStr (RelationTuple.toStr ⟨[], [], [], some ['x', ')'], none⟩) ≠ .ok ⟨[], [], [], some ['x', ')'], none⟩ ∧
    RelationTuple.fromStr (RelationTuple.toStr ⟨[], [], [], none, some ⟨[':'], [], []⟩⟩) ≠ .ok ⟨[], [], [], none, some ⟨[':'], [], []⟩⟩ ∧
    RelationTuple.fromStr (RelationTuple.toStr ⟨[], [], [], none, some ⟨['#'], [], []⟩⟩) ≠ .ok ⟨[], [], [], none, some ⟨['#'], [], []⟩⟩ ∧
    RelationTuple.fromStr (RelationTuple.toStr ⟨[], [], [], none, some ⟨['('], [], []⟩⟩) ≠ .ok ⟨[], [], [], none, some ⟨['('], [], []⟩⟩ ∧
    RelationTuple.fromStr (RelationTuple.toStr ⟨[], [], [], none, some ⟨[], ['#'], ['r']⟩⟩) ≠ .ok ⟨[], [], [], none, some ⟨[], ['#'], ['r']⟩⟩ ∧
    RelationTuple.fromStr (RelationTuple.toStr ⟨[], [], [], none, some ⟨[], [')'], []⟩⟩) ≠ .ok ⟨[], [], [], none, some ⟨[], [')'], []⟩⟩ ∧
    RelationTuple.fromStr (RelationTuple.toStr ⟨[], [], [], none, some ⟨[], [], ['r', ')']⟩⟩) ≠ .ok ⟨[], [], [], none, some ⟨[], [], ['r', ')']⟩⟩ := by
  decide

/-- A tuple survives print / parse if and only if it is in `DomString`, whatever its subject pointers are. -/
theorem C18_string_dom_iff (t : RelationTuple) :
    RelationTuple.fromStr t.toStr = .ok t ↔ DomString t = true :=
  ⟨fun h => (RelationTuple.fromStr_dom_or_trim h).resolve_right fun ht => trim_reparse_ne t ht h,
   RelationTuple.fromStr_toStr t⟩

-- `C18_string_dom_iff`, left to right: a `#` in the object breaks the round trip.
example : ¬ RelationTuple.fromStr (RelationTuple.toStr ⟨['n'], ['o', '#'], ['r'], some ['s'], none⟩)
    = .ok ⟨['n'], ['o', '#'], ['r'], some ['s'], none⟩ :=
  fun h => absurd ((C18_string_dom_iff _).1 h) (by decide)

/-- Malformed text is rejected: an input without `:`; with a `:` but no `#` after the first
    `:`; with both but no `@` after the first `#` that follows the first `:` — in the order
    the parser looks for them. -/
theorem C18_reject :
    (∀ s, contains ':' s = false → RelationTuple.fromStr s = .err .malformed) ∧
    (∀ ns r, contains ':' ns = false → contains '#' r = false →
      RelationTuple.fromStr (ns ++ ':' :: r) = .err .malformed) ∧
    (∀ ns obj r, contains ':' ns = false → contains '#' obj = false → contains '@' r = false →
      RelationTuple.fromStr (ns ++ ':' :: (obj ++ '#' :: r)) = .err .malformed) := by
  refine ⟨fun s h => ?_, fun ns r h1 h2 => ?_, fun ns obj r h1 h2 h3 => ?_⟩
  · simp only [RelationTuple.fromStr, cut_eq_none_iff.mpr h]
  · simp only [RelationTuple.fromStr, cut_append _ h1, cut_eq_none_iff.mpr h2]
  · simp only [RelationTuple.fromStr, cut_append _ h1, cut_append _ h2, cut_eq_none_iff.mpr h3]

-- the three cases of `C18_reject` on concrete text, and a well-formed input beside them.
example : RelationTuple.fromStr "no separators".toList = .err .malformed ∧
    RelationTuple.fromStr "n:o@s#r".toList = .err .malformed ∧
    RelationTuple.fromStr "n:o#r:s".toList = .err .malformed ∧
    RelationTuple.fromStr "n:o#r@(a)".toList = .ok ⟨['n'], ['o'], ['r'], some ['a'], none⟩ := by decide

/-- Witness: `n:o#r@#a:b`, a subject with a `#` before its first `:`, is rejected. -/
theorem C18_reject_subject : RelationTuple.fromStr "n:o#r@#a:b".toList = .err .malformed := by decide

/-- What is accepted is never mis-parsed silently, outside one class: every successful
    parse is a tuple with exactly one subject kind that lies in `DomString` or in
    `TrimClass`, and the two are disjoint. -/
theorem C18_parse_image (s : Str) (t : RelationTuple) (h : RelationTuple.fromStr s = .ok t) :
    t.oneSubject = true ∧ (DomString t = true ∨ TrimClass t = true) ∧
    (TrimClass t = true → DomString t = false) := by
  refine ⟨?_, RelationTuple.fromStr_dom_or_trim h, fun hc =>
    Bool.eq_false_iff.mpr fun hd => trim_reparse_ne t hc (RelationTuple.fromStr_toStr t hd)⟩
  obtain ⟨ns, obj, rel, subject, -, -, -, -, hsub⟩ := RelationTuple.fromStr_shape h
  rcases subjectFromStr_ok hsub with ⟨ss, -, rfl⟩ | ⟨-, rfl⟩ <;> rfl

/-
    theorem C18_idempotent (s : Str) (t : RelationTuple) (h : RelationTuple.fromStr s = .ok t) :
        RelationTuple.fromStr t.toStr = .ok t

  `FromString` strips every leading and trailing parenthesis of the subject
  (`strings.Trim(subject, "()")`) and `SubjectSet.String()` drops the `#` of an empty relation.
  Refuted by `C18_trim_counterexample` (finding F-trim).
-/
/-- Print/re-parse is the identity on everything the parser returns, except on the class of
    finding F-trim (subject set, empty relation, object ending with a parenthesis). -/
theorem C18_idempotent_partial (s : Str) (t : RelationTuple)
    (h : RelationTuple.fromStr s = .ok t) (hc : TrimClass t = false) :
    RelationTuple.fromStr t.toStr = .ok t := by
  rcases RelationTuple.fromStr_dom_or_trim h with hd | ht
  · exact C18_string_dom t hd
  · rw [hc] at ht; cases ht

-- the hypotheses of `C18_idempotent_partial` are met: parentheses around the subject set are stripped …
example : RelationTuple.fromStr "n:o#r@(a:b#c)".toList = .ok ⟨['n'], ['o'], ['r'], none, some ⟨['a'], ['b'], ['c']⟩⟩ ∧
    TrimClass ⟨['n'], ['o'], ['r'], none, some ⟨['a'], ['b'], ['c']⟩⟩ = false := by decide
-- … and the theorem applies: the result is stable.
example : RelationTuple.fromStr (RelationTuple.toStr ⟨['n'], ['o'], ['r'], none, some ⟨['a'], ['b'], ['c']⟩⟩)
    = .ok ⟨['n'], ['o'], ['r'], none, some ⟨['a'], ['b'], ['c']⟩⟩ :=
  C18_idempotent_partial "n:o#r@(a:b#c)".toList _ (by decide) (by decide)

/-- Refutes `C18_idempotent` above (finding F-trim): `n:o#r@a:b)#` parses to the subject-set object `b)`, prints
    as `n:o#r@a:b)` and re-parses to the object `b`. -/
theorem C18_trim_counterexample :
    ∃ t, RelationTuple.fromStr ['n',':','o','#','r','@','a',':','b',')','#'] = .ok t ∧
      t = ⟨['n'], ['o'], ['r'], none, some ⟨['a'], ['b', ')'], []⟩⟩ ∧
      t.toStr = ['n',':','o','#','r','@','a',':','b',')'] ∧
      TrimClass t = true ∧
      RelationTuple.fromStr t.toStr = .ok ⟨['n'], ['o'], ['r'], none, some ⟨['a'], ['b'], []⟩⟩ ∧
      RelationTuple.fromStr t.toStr ≠ .ok t :=
  ⟨_, rfl, rfl, by decide, by decide, by decide, by decide⟩

/-- Every tuple in `TrimClass` is changed by print / re-parse: `C18_idempotent_partial` cannot be extended to
    any part of it. -/
theorem C18_trim_class_exact (t : RelationTuple) (hc : TrimClass t = true) :
    RelationTuple.fromStr t.toStr ≠ .ok t :=
  trim_reparse_ne t hc

-- `C18_trim_class_exact` on an object that is a single parenthesis
example : RelationTuple.fromStr (RelationTuple.toStr ⟨[], [], [], none, some ⟨[], ['('], []⟩⟩)
    ≠ .ok ⟨[], [], [], none, some ⟨[], ['('], []⟩⟩ :=
  C18_trim_class_exact _ (by decide)

end Keto
