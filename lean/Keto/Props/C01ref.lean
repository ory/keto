/-
  C01 — the run-time oracle `refEval` against the inductive Zanzibar semantics `Mem`, for
  configurations without `!` (`Cfg.pos`).

  Model: Keto/Model/Engine.lean (for `C01_engine_eq_ref_pos`).  Spec: Keto/Spec/Membership.lean (`refEval`,
  `Mem`), Keto/Spec/Positive.lean (`Cfg.pos`).  Lemmas: Keto/Proofs/StratifiedLemmas.lean, through
  Keto/Props/C01neg.lean.

  Every fuel is allowed: with too little fuel the evaluator answers `bad`, about which nothing is claimed.
-/
import Keto.Model.Engine
import Keto.Spec.Membership
import Keto.Spec.Positive
import Keto.Props.C01
import Keto.Props.C01complete
import Keto.Props.C01neg

namespace Keto

/-- Soundness of the reference evaluator, positive fragment. -/
theorem refEval_sound_pos (c : Cfg) (T : List Tuple) (hc : Cfg.pos c) (fuel : Nat) (q : Tuple) :
    refEval c T fuel [] 0 (.node q) = .t → Mem c T q :=
  fun h => (tr_iff_mem_pos c T hc q).1 (refEval_sound_all c T fuel q h)

-- hypotheses of `refEval_sound_pos` on the cyclic store of `C01cex`: user 7 views doc 1 behind the cycle,
-- through the rewrite …
example : Cfg.pos C01cex.cfg ∧
    refEval C01cex.cfg C01cex.env.T 20 [] 0 (.node ⟨"doc", 1, "view", .id 7⟩) = .t :=
  ⟨Cfg.pos_of_posB (by decide), C01cex.ref_d1u7⟩

-- … and through the tuple-to-subject-set branch, on `C01ex`.
example : refEval C01ex.cfg C01ex.env.T 10 [] 0 (.node C01ex.q) = .t := by decide

-- conclusion of `refEval_sound_pos`, derived:
example : Mem C01cex.cfg C01cex.env.T ⟨"doc", 1, "view", .id 7⟩ :=
  refEval_sound_pos _ _ (Cfg.pos_of_posB (by decide)) 20 _ C01cex.ref_d1u7

/-- Completeness of the reference evaluator, positive fragment; the `f` may come from the per-path cycle
    cut.  `hc` is not used: this is `fa_not_mem` after `refEval_complete_all`. -/
theorem refEval_complete_pos (c : Cfg) (T : List Tuple) (hc : Cfg.pos c) (fuel : Nat) (q : Tuple) :
    refEval c T fuel [] 0 (.node q) = .f → ¬ Mem c T q :=
  fun h => fa_not_mem c T q (refEval_complete_all c T fuel q h)

-- hypotheses of `refEval_complete_pos`: `f` through the path cut (user 9 is in no group; group 1 is
-- re-entered via group 2) …
example : Cfg.pos C01cex.cfg ∧
    refEval C01cex.cfg C01cex.env.T 20 [] 0 (.node ⟨"group", 1, "member", .id 9⟩) = .f :=
  ⟨Cfg.pos_of_posB (by decide), C01cex.ref_g1u9⟩

-- … and through `or` / `and` (user 7 edits doc 2 but the owners group 4 only contains itself).
example : refEval C01cex.cfg C01cex.env.T 20 [] 0 (.node ⟨"doc", 2, "view", .id 7⟩) = .f := C01cex.ref_d2u7

-- conclusion of `refEval_complete_pos`, derived:
example : ¬ Mem C01cex.cfg C01cex.env.T ⟨"group", 1, "member", .id 9⟩ :=
  refEval_complete_pos _ _ (Cfg.pos_of_posB (by decide)) 20 _ C01cex.ref_g1u9

-- the cut is what answers: with the cycle but too little fuel the answer is `bad`, not `f`.
example : refEval C01cex.cfg C01cex.env.T 2 [] 0 (.node ⟨"group", 1, "member", .id 9⟩) = .bad := by decide

/-- Exactness of the reference evaluator, positive fragment. -/
theorem refEval_iff_Mem_pos (c : Cfg) (T : List Tuple) (hc : Cfg.pos c) (fuel : Nat) (q : Tuple) :
    refEval c T fuel [] 0 (.node q) ≠ .bad → (refEval c T fuel [] 0 (.node q) = .t ↔ Mem c T q) :=
  fun hnb => (refEval_t_iff_tr hnb).trans (tr_iff_mem_pos c T hc q)

-- premise of `refEval_iff_Mem_pos`: met with either answer.
example : refEval C01cex.cfg C01cex.env.T 20 [] 0 (.node ⟨"doc", 1, "view", .id 7⟩) ≠ .bad ∧
    refEval C01cex.cfg C01cex.env.T 20 [] 0 (.node ⟨"doc", 2, "view", .id 7⟩) ≠ .bad :=
  ⟨by rw [C01cex.ref_d1u7]; decide, by rw [C01cex.ref_d2u7]; decide⟩

/-- The engine model agrees with the run-time oracle where both answer (no error, no limit event, not
    `bad`).  Instance of `C01_exact_all_refEval` (Keto/Props/C01exact.lean), which needs no `Cfg.pos`. -/
theorem C01_engine_eq_ref_pos (E : Env) (hc : Cfg.pos E.cfg)
    (hs : E.strict = true → conforms E.cfg E.T = true) (g : Int) (fuel : Nat) (q : Tuple) (r : Int)
    (rfuel : Nat) :
    (check E g fuel q r).1.err = none → (check E g fuel q r).2.limitHits = 0 →
    refEval E.cfg E.T rfuel [] 0 (.node q) ≠ .bad →
    ((check E g fuel q r).1.memb = .isMember ↔ refEval E.cfg E.T rfuel [] 0 (.node q) = .t) :=
  fun herr hlim hnb => (C01_exact_pos_general E hc hs g fuel q r herr hlim).trans
    (refEval_iff_Mem_pos E.cfg E.T hc rfuel q hnb).symm

-- hypotheses and left side of `C01_engine_eq_ref_pos` on the cyclic store, non-strict mode, a member …
example : Cfg.pos C01cex.env.cfg ∧
    (check C01cex.env 10 200 ⟨"doc", 1, "view", .id 7⟩ 0).1.err = none ∧
    (check C01cex.env 10 200 ⟨"doc", 1, "view", .id 7⟩ 0).2.limitHits = 0 ∧
    refEval C01cex.env.cfg C01cex.env.T 20 [] 0 (.node ⟨"doc", 1, "view", .id 7⟩) ≠ .bad ∧
    (check C01cex.env 10 200 ⟨"doc", 1, "view", .id 7⟩ 0).1.memb = .isMember :=
  ⟨Cfg.pos_of_posB (by decide), congrArg Res.err C01cex.check_d1u7.1, C01cex.check_d1u7.2,
    by rw [show C01cex.env.cfg = C01cex.cfg from rfl, C01cex.ref_d1u7]; decide, congrArg Res.memb C01cex.check_d1u7.1⟩

-- … and in strict mode, a non-member:
example : conforms C01cex.envStrict.cfg C01cex.envStrict.T = true ∧
    (check C01cex.envStrict 10 200 ⟨"doc", 2, "view", .id 7⟩ 0).1.err = none ∧
    (check C01cex.envStrict 10 200 ⟨"doc", 2, "view", .id 7⟩ 0).2.limitHits = 0 ∧
    refEval C01cex.envStrict.cfg C01cex.envStrict.T 20 [] 0 (.node ⟨"doc", 2, "view", .id 7⟩) = .f :=
  ⟨by decide, congrArg Res.err C01cex.check_strict_d2u7.1, C01cex.check_strict_d2u7.2, C01cex.ref_d2u7⟩

end Keto
