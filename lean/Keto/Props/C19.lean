/-
  C19 — namespace configuration reloads are keep-last-good and never partial.

  Model: Keto/Model/Watcher.lean. `lstep`/`lrun` are the legacy watcher (namespace_watcher.go), `ostep`/`orun` the
  OPL watcher (opl_config_namespace_watcher.go). `parse : Content → Option (List String)` is a PARAMETER (every
  theorem holds for every parser; parsing and type checking of a file are one step); a history is any list of
  events, oldest first. Lemmas: Keto/Proofs/WatcherLemmas.lean. Fact tie: Keto/Proofs/FactsTieConc.lean.
  Histories with removes and configuration reloads: Keto/Props/C19remove.lean.

  The theorems say what is visible after every history, hence at every instant between two events. NOT proved:
  that a written version "eventually" reaches the watcher (observed with a timeout by stream `watch`; delivery by
  fsnotify is trusted), and that an event is one atomic step of the code (`C19_atomic_step`).

  Hypotheses that recur:
    `noRemove es = true`                  a remove-free history (with removes: Keto/Props/C19remove.lean)
    `∀ e ∈ es, ∃ c, e = .change p c`      the OPL target is a single file `p` (the usual deployment)
-/
import Keto.Model.Watcher
import Keto.Proofs.WatcherLemmas
import Keto.Props.C19remove
import Keto.Proofs.FactsTieConc

namespace Keto
open W

/-! ### legacy watcher -/

/-- Keep-last-good, per file: after any remove-free history the namespaces visible for file `p` are those of the
    LAST valid version written to `p`, and nothing is visible only if no version of `p` was valid yet. -/
theorem C19_legacy (parse : Parse) (es : List Ev) (p : String) (h : noRemove es = true) :
    lvisible (lrun parse es) p = lastValid parse p es := by
  rw [C19_legacy_with_removes, C19_legacy_with_removes_agrees parse es p h]

/-- … at every instant: `C19_legacy` at a prefix `pre` of the history. -/
theorem C19_legacy_every_prefix (parse : Parse) (es : List Ev) (p : String) (h : noRemove es = true)
    (pre : List Ev) (hpre : pre <+: es) :
    lvisible (lrun parse pre) p = lastValid parse p pre := by
  obtain ⟨suf, rfl⟩ := hpre
  exact C19_legacy parse pre p (noRemove_append_left h)

/-- A change to content that does not parse changes nothing that is visible, for any file and any history. -/
theorem C19_legacy_invalid_keeps (parse : Parse) (es : List Ev) (p : String) (c : Content)
    (hbad : parse c = none) (q : String) :
    lvisible (lrun parse (es ++ [.change p c])) q = lvisible (lrun parse es) q := by
  simp [C19_legacy_with_removes, lastValidSinceRemove_snoc, sinceStep, hbad]

/-- A change to valid content takes effect for that file and touches no other file, after any history. -/
theorem C19_legacy_valid_takes_effect (parse : Parse) (es : List Ev) (p : String) (c : Content)
    (nss : List String) (hok : parse c = some nss) :
    lvisible (lrun parse (es ++ [.change p c])) p = some nss ∧
    ∀ q, q ≠ p → lvisible (lrun parse (es ++ [.change p c])) q = lvisible (lrun parse es) q :=
  ⟨by simp [C19_legacy_with_removes, lastValidSinceRemove_snoc, sinceStep, hok],
   fun q hq => by simp [C19_legacy_with_removes, lastValidSinceRemove_snoc, sinceStep, Ne.symm hq]⟩

/-! ### OPL watcher -/

/- The per-file statement for the OPL watcher,

      theorem C19_opl (parse) (es) (p) (h : noRemove es = true) :
          get p (orun parse es).visible = lastValid parse p es

   fails with several files: the visible set is replaced all-or-nothing, so one invalid file blocks the valid
   versions of all other files. Refuted by `C19_opl_multi_counterexample` (finding F-opl-all-or-nothing). -/

/-- Partial form of `C19_opl` for a single watched file. -/
theorem C19_opl_single (parse : Parse) (es : List Ev) (p : String)
    (hone : ∀ e ∈ es, ∃ c, e = Ev.change p c) :
    (orun parse es).visible =
      match lastValid parse p es with
      | some nss => [(p, nss)]
      | none => [] := by
  rw [ovisible_orun_single parse p es fun e he => .inl (hone e he),
    C19_legacy_with_removes_agrees parse es p (noRemove_of_changes hone)]
  cases lastValid parse p es <;> rfl

/-- … at every instant: `C19_opl_single` at a prefix `pre` of the history. -/
theorem C19_opl_single_every_prefix (parse : Parse) (es : List Ev) (p : String)
    (hone : ∀ e ∈ es, ∃ c, e = Ev.change p c) (pre : List Ev) (hpre : pre <+: es) :
    (orun parse pre).visible =
      match lastValid parse p pre with
      | some nss => [(p, nss)]
      | none => [] := by
  obtain ⟨suf, rfl⟩ := hpre
  exact C19_opl_single parse pre p (fun e he => hone e (List.mem_append_left _ he))

/-- In general (any number of files, removes allowed): the visible set is `[]` if at no instant all files were
    valid, and otherwise the COMPLETE parse of the file table at the last instant at which all files were valid
    (`lastAllValid`, characterised by the next two theorems). -/
theorem C19_opl_global (parse : Parse) (es : List Ev) :
    (orun parse es).visible = (lastAllValid parse es).getD [] :=
  ovisible_foldl parse {} es

theorem C19_lastAllValid_none (parse : Parse) (es : List Ev) :
    lastAllValid parse es = none ↔
      ∀ pre, pre <+: es → pre ≠ [] → parseAll parse (orun parse pre).files = none := by
  simp only [lastAllValid, lastAllValidFrom_eq_none, orun_files]

theorem C19_lastAllValid_some (parse : Parse) (es : List Ev) (v : List (String × List String)) :
    lastAllValid parse es = some v ↔
      ∃ pre suf, es = pre ++ suf ∧ pre ≠ [] ∧ parseAll parse (orun parse pre).files = some v ∧
        ∀ mid, mid <+: suf → mid ≠ [] → parseAll parse (orun parse (pre ++ mid)).files = none := by
  simp only [lastAllValid, lastAllValidFrom_eq_some, lastAllValidFrom_eq_none, orun_files, filesRun_append]

/-- One event: if every file parses afterwards the complete parse takes effect, otherwise what was visible
    stays. -/
theorem C19_opl_event (parse : Parse) (es : List Ev) (e : Ev) :
    (orun parse (es ++ [e])).visible =
      (parseAll parse (orun parse (es ++ [e])).files).getD (orun parse es).visible := by
  rw [orun_snoc, ostep_visible, ostep_files]

/-- Never partial, never invalid: every visible entry `(p, nss)` is the parse of ONE content that was written
    to `p` in the history (by the invariant `OInv` of WatcherLemmas). -/
theorem C19_opl_never_partial (parse : Parse) (es : List Ev) (p : String) (nss : List String)
    (h : (p, nss) ∈ (orun parse es).visible) :
    ∃ c, parse c = some nss ∧ Ev.change p c ∈ es :=
  (OInv_orun parse es).visible p nss h

/-- … and a file has at most one visible entry (no mixture of two versions of a file). -/
theorem C19_opl_one_entry_per_file (parse : Parse) (es : List Ev) :
    ((orun parse es).visible.map (·.1)).Nodup :=
  (OInv_orun parse es).visibleNodup

/-- The parser used by the concrete witnesses: even contents are valid and declare one namespace named
    after the content, odd contents do not parse. -/
def C19_parse : Parse := fun c => if c % 2 == 0 then some [toString c] else none

/-- Refutes `C19_opl`: with an invalid version of "b" in the directory, loading a valid version of "a" leaves
    NOTHING visible (conjuncts 1-3 and 5; in the other order the loaded version of "a" stays visible: conjunct
    4); and after valid "a", valid "b", an invalid "b" and then a newer valid "a", the OLD version of "a" is still
    the visible one (conjuncts 6-7). -/
theorem C19_opl_multi_counterexample :
    lastValid C19_parse "a" [.change "b" 1, .change "a" 2] = some ["2"] ∧
    get "a" (orun C19_parse [.change "b" 1, .change "a" 2]).visible = none ∧
    (orun C19_parse [.change "b" 1, .change "a" 2]).visible = [] ∧
    (orun C19_parse [.change "a" 2, .change "b" 1]).visible = [("a", ["2"])] ∧
    noRemove [.change "b" 1, .change "a" 2] = true ∧
    lastValid C19_parse "a" [.change "a" 2, .change "b" 4, .change "b" 1, .change "a" 6] = some ["6"] ∧
    get "a" (orun C19_parse [.change "a" 2, .change "b" 4, .change "b" 1, .change "a" 6]).visible
      = some ["2"] := by
  decide

-- `C19_legacy` on the two histories of `C19_opl_multi_counterexample`
example :
    lvisible (lrun C19_parse [.change "b" 1, .change "a" 2]) "a" = some ["2"] ∧
    lvisible (lrun C19_parse [.change "a" 2, .change "b" 4, .change "b" 1, .change "a" 6]) "a"
      = some ["6"] := by
  decide

/-! ### atomicity -/

/-- Atomicity of an event is how the model is built, not a result: the first two conjuncts say that a run is a
    fold of `lstep` / `ostep`, one step per event (in the code: one swap of the map / one `set` under the write
    lock, supported by `C19_lockUse_tie`); the third restates `C19_opl_event`. -/
theorem C19_atomic_step (parse : Parse) (es : List Ev) (e : Ev) :
    lrun parse (es ++ [e]) = lstep parse (lrun parse es) e ∧
    orun parse (es ++ [e]) = ostep parse (orun parse es) e ∧
    ((ostep parse (orun parse es) e).visible = (orun parse es).visible ∨
      parseAll parse (ostep parse (orun parse es) e).files
        = some (ostep parse (orun parse es) e).visible) := by
  refine ⟨lrun_snoc parse es e, orun_snoc parse es e, ?_⟩
  rw [ostep_visible, ostep_files]
  cases parseAll parse (filesStep (orun parse es).files e) with
  | none => exact Or.inl rfl
  | some vis => exact Or.inr rfl

/-- The same statement as `C14_lockUse_tie` (there: what the table does not establish). The rows this property
    rests on: the namespace managers and both watchers swap their map under the write lock (`set`,
    `handleChange`, `handleRemove`) and read it under the read lock. -/
theorem C19_lockUse_tie : Facts.lockUse = FactsTie.expectedLockUse := Keto.FactsTie.lockUse_tie

/-! ### non-vacuity -/

-- `C19_legacy`, `C19_opl_single` and their `_every_prefix` forms, hypotheses (last conjunct) and conclusions:
-- one file, history valid(2) · invalid(3) · valid(4)
example :
    lvisible (lrun C19_parse []) "a" = none ∧
    lvisible (lrun C19_parse [.change "a" 2]) "a" = some ["2"] ∧
    lvisible (lrun C19_parse [.change "a" 2, .change "a" 3]) "a" = some ["2"] ∧
    lvisible (lrun C19_parse [.change "a" 2, .change "a" 3, .change "a" 4]) "a" = some ["4"] ∧
    (orun C19_parse []).visible = [] ∧
    (orun C19_parse [.change "a" 2]).visible = [("a", ["2"])] ∧
    (orun C19_parse [.change "a" 2, .change "a" 3]).visible = [("a", ["2"])] ∧
    (orun C19_parse [.change "a" 2, .change "a" 3, .change "a" 4]).visible = [("a", ["4"])] ∧
    lastValid C19_parse "a" [.change "a" 2, .change "a" 3] = some ["2"] ∧
    lastValid C19_parse "a" [.change "a" 2, .change "a" 3, .change "a" 4] = some ["4"] ∧
    noRemove [.change "a" 2, .change "a" 3, .change "a" 4] = true := by
  decide

-- `C19_opl_global`, `C19_lastAllValid_some`, `C19_lastAllValid_none`: an invalid first version; two valid files;
-- a history whose last event breaks a file, and one that never has all files valid
example :
    lvisible (lrun C19_parse [.change "a" 3]) "a" = none ∧
    (orun C19_parse [.change "a" 3]).visible = [] ∧
    (orun C19_parse [.change "a" 2, .change "b" 4]).visible = [("a", ["2"]), ("b", ["4"])] ∧
    lastAllValid C19_parse [.change "a" 2, .change "b" 4, .change "a" 5]
      = some [("a", ["2"]), ("b", ["4"])] ∧
    lastAllValid C19_parse [.change "a" 1, .change "b" 4] = none := by
  decide

end Keto
