/-
  C11 — a configuration that type-checks cannot fail at check time (forward direction, engine part).

  Model: Keto/Model/Engine.lean.  Spec: Keto/Spec/WellFormed.lean.  Lemmas:
  Keto/Proofs/EngineNoSchemaError.lean, EngineSound.lean (`build_inv`).
  Proved here: the `…_partial` form under the hypothesis `WellFormed` (every name the engine can look up
  resolves — the property the type checker is meant to establish).  The link from the type checker to
  `WellFormed` and the violation of the full statement are in Keto/Props/C11tc.lean.
-/
import Keto.Model.Engine
import Keto.Spec.WellFormed
import Keto.Proofs.EngineNoSchemaError
import Keto.Props.C15

namespace Keto

/-- Under `WellFormed`, a call of the engine whose own lookups are fine (`Call.WF`) never yields a schema
    error: neither while the check is constructed nor in any later run of the returned thunk. -/
theorem C11_build_no_schema (E : Env) (hw : WellFormed E.cfg E.T) (fuel : Nat) (call : Call) (ctx : Ctx) (w : World)
    (h : call.WF E.cfg E.T) (c' : Ctx) (w' : World) :
    ((build E fuel call ctx w).1 c' w').1.err ≠ some .schema :=
  build_inv (NoErr.ok (by decide)) E (wf_closed E hw) fuel call ctx w h c' w'

/- Full statement (DESIGN.md §4, C11): `typecheck P = []`, conforming tuples, a query on a declared
   (namespace, relation) pair ⇒ no `schema` result of the engine, for any fuel, depth, fault oracle.
   Refuted by `C11_plainTraversals_needed` (Keto/Props/C11tc.lean; finding F-ttu-type). -/

/-- Under `WellFormed`, a query on a relation that resolves never ends in a schema error ("relation
    does not exist"). -/
theorem C11_forward_partial (E : Env) (hw : WellFormed E.cfg E.T) (q : Tuple)
    (hq : astRelationFor E.cfg q.ns q.rel ≠ .bad) (g : Int) (fuel : Nat) (r : Int) :
    (check E g fuel q r).1.err ≠ some .schema :=
  C11_build_no_schema E hw fuel (.isAllowed q (effDepth r g) false) {} {} hq {} _

/-- With the fuel of `C15_check_terminates` the only error such a check can end in is a storage error. -/
theorem C11_forward_partial_storage_only (E : Env) (hw : WellFormed E.cfg E.T) (q : Tuple)
    (hq : astRelationFor E.cfg q.ns q.rel ≠ .bad) (g : Int) (fuel : Nat) (r : Int)
    (hf : fuel ≥ checkFuel E.cfg (effDepth r g)) :
    (check E g fuel q r).1.err = none ∨ (check E g fuel q r).1.err = some .storage :=
  NoErr.storage_only (C11_forward_partial E hw q hq g fuel r) (C15_check_terminates E g fuel q r hf)
    (build_yields E fuel (.isAllowed q (effDepth r g) false) {} {} {} _).no_ctx

/-- The decidable check is sufficient for the hypothesis. -/
theorem C11_wellFormedB_sound {c : Cfg} {T : List Tuple} (h : wellFormedB c T = true) : WellFormed c T := by
  simp only [wellFormedB, Bool.and_eq_true, List.all_eq_true] at h
  obtain ⟨hT, hc⟩ := h
  have hrel : ∀ ns rel R rw, astRelationFor c ns rel = .rel R → R.rewrite = some rw →
      (∀ r' ∈ computedNames rw, (astRelationFor c ns r').isBad = false) ∧
      ∀ p ∈ ttuNames rw, ∀ t ∈ T, t.ns = ns → t.rel = p.1 → subjectOkB c t.sub (some p.2) = true := by
    intro ns rel R rw hR hrw
    obtain ⟨N, hN, rfl, hRN, _⟩ := astRelationFor_rel hR
    have h1 := hc N hN R hRN
    rw [hrw] at h1
    simp only [Bool.and_eq_true, List.all_eq_true, Bool.not_eq_true', Bool.or_eq_true] at h1
    refine ⟨h1.1, fun p hp t ht hns hrl => ?_⟩
    cases h1.2 p hp t ht with
    | inl h => simp [hns, hrl] at h
    | inr h => exact h
  refine ⟨?_, ?_, ?_⟩
  · intro t ht n o r hs
    exact subjectOkB_sound (rel := none) (hT t ht) hs
  · intro ns rel R rw hR hrw r' hr'
    exact Lookup.ne_bad_of_isBad ((hrel ns rel R rw hR hrw).1 r' hr')
  · intro ns rel R rw hR hrw p hp t ht hns hrl n o r hs
    exact subjectOkB_sound (rel := some p.2) ((hrel ns rel R rw hR hrw).2 p hp t ht hns hrl) hs

namespace C11ex

/-- ```
    class User {}
    class G2 { related: { members: User[] } }                      // no `viewers`
    class Folder { related: { viewers: User[] } }
    class Doc {
      related: { parents: (Folder | SubjectSet<G2, "members">)[] }
      permits = { view: (ctx) => this.related.parents.traverse((p) => p.related.viewers.includes(ctx.subject)) }
    }
    ``` -/
def cfg : Cfg := [
  ⟨"User", []⟩,
  ⟨"G2", [⟨"members", [⟨"User", ""⟩], none⟩]⟩,
  ⟨"Folder", [⟨"viewers", [⟨"User", ""⟩], none⟩]⟩,
  ⟨"Doc", [⟨"parents", [⟨"Folder", ""⟩, ⟨"G2", "members"⟩], none⟩,
           ⟨"view", [], some ⟨.or, [.ttu "parents" "viewers"]⟩⟩]⟩]

/-- conforming tuples: `Doc:1#parents@G2:5#members`, `G2:5#members@User:7` -/
def tuples : List Tuple := [⟨"Doc", 1, "parents", .set "G2" 5 "members"⟩, ⟨"G2", 5, "members", .id 7⟩]

/-- the same store without the subject-set parent (`Doc:1#parents@Folder:2`, empty relation) -/
def tuplesOk : List Tuple := [⟨"Doc", 1, "parents", .set "Folder" 2 ""⟩, ⟨"Folder", 2, "viewers", .id 7⟩,
  ⟨"G2", 5, "members", .id 7⟩]

def env (T : List Tuple) : Env where
  cfg := cfg
  strict := false
  maxWidth := 100
  T := T
  fails := fun _ => false
  pageSize := 100

def q : Tuple := ⟨"Doc", 1, "view", .id 7⟩

end C11ex

/-- Refutes `C11_forward_partial` with `WellFormed` weakened to "the query's relation resolves": `parents`
    holds the subject set `G2:5#members` and `G2` lacks the relation `viewers` the traversal looks up ⇒
    schema error.  Only the sufficient check `wellFormedB` is shown to fail.  The type checker rejects
    this configuration (`User` has no `viewers`); the witness of finding F-ttu-type on an accepted
    document is `C11_plainTraversals_needed`. -/
theorem C11_ttu_subjectset_counterexample :
    astRelationFor C11ex.cfg C11ex.q.ns C11ex.q.rel ≠ .bad ∧
    (check (C11ex.env C11ex.tuples) 5 50 C11ex.q 0).1.err = some .schema ∧
    wellFormedB C11ex.cfg C11ex.tuples = false := by
  refine ⟨?_, by decide, by decide⟩
  exact Lookup.ne_bad_of_isBad (by decide)

-- `C11_forward_partial`: hypotheses met with a store whose parents are folders only; the check answers.
example : WellFormed (C11ex.env C11ex.tuplesOk).cfg (C11ex.env C11ex.tuplesOk).T ∧
    astRelationFor (C11ex.env C11ex.tuplesOk).cfg C11ex.q.ns C11ex.q.rel ≠ .bad ∧
    (check (C11ex.env C11ex.tuplesOk) 5 50 C11ex.q 0).1 = Res.isM :=
  ⟨C11_wellFormedB_sound (by decide), Lookup.ne_bad_of_isBad (by decide), by decide⟩

end Keto
