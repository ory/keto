/-
  C02 — depth and width limits fail closed and can only be lowered per request.

  Model: Keto/Model/Engine.lean (`effDepth`, `check`).  Spec: Keto/Spec/Membership.lean.  Lemmas:
  Keto/Proofs/QueryLemmas.lean (the clamp), EngineSound.lean.
  Proved: the clamp, and "fail closed" without `!`; with `!` it fails (see below).
  Keto/Proofs/FactsTie.lean is imported for its ties of the depth tests and depth arguments to the
  sources: nothing below mentions them, but a change of one of those sites must stop this module from
  building.
-/
import Keto.Model.Engine
import Keto.Proofs.FactsTie
import Keto.Proofs.FactsTieWidth
import Keto.Spec.Membership
import Keto.Spec.Positive
import Keto.Proofs.EngineSound

namespace Keto

/-- `effDepth` never exceeds the global limit and is at least 1 whenever that is. -/
theorem C02_effDepth_bounds (r g : Int) (hg : 1 ≤ g) : 1 ≤ effDepth r g ∧ effDepth r g ≤ g :=
  ⟨effDepth_pos hg, effDepth_le r g⟩

/-- The clamp spelled out; definitional. -/
theorem C02_effDepth_cases (r g : Int) :
    effDepth r g = (if r ≤ 0 ∨ g < r then g else r) := rfl

/-- A request with depth `r` against a server whose global limit is `g` behaves exactly like the same
    request with depth 0 ("use the global limit") against a server whose global limit is the effective
    depth (`hg` is not used). -/
theorem C02_clamp (E : Env) (g : Int) (hg : 1 ≤ g) (fuel : Nat) (q : Tuple) (r : Int) :
    check E g fuel q r = check E (effDepth r g) fuel q 0 :=
  check_clamp E g fuel q r

/-- … and like the same request with the effective depth spelled out (`hg` is not used). -/
theorem C02_clamp_explicit (E : Env) (g : Int) (hg : 1 ≤ g) (fuel : Nat) (q : Tuple) (r : Int) :
    check E g fuel q r = check E g fuel q (effDepth r g) :=
  check_clamp_explicit E g fuel q r

-- `C02_effDepth_cases` on instances: the clamp really changes a request.
example : effDepth 7 3 = 3 ∧ effDepth (-1) 3 = 3 ∧ effDepth 2 3 = 2 ∧ effDepth 0 3 = 3 := by decide

/-- Where the width limit applies in the code is where it applies in the model: in the subject-set
    expansion of a direct check, and in no other traversal. -/
theorem C02_width_sites_tie : Facts.widthSites = FactsTie.expectedWidthSites := FactsTie.widthSites_tie

/- Full statement: for every configuration, `!` included, whatever is allowed under the limits is allowed
   by the unbounded semantics.  Refuted by `C01_exact_limit_counterexample` (Keto/Props/C01exact.lean;
   finding F-unknown). -/

/-- Limits fail closed without `!`: hitting a depth or width limit can lose an `isMember` answer but
    never create one.  Same statement and proof term as `C01_sound_pos` and `C03_no_allow_pos`. -/
theorem C02_fail_closed_pos (E : Env) (hc : Cfg.pos E.cfg) (g : Int) (fuel : Nat) (q : Tuple) (r : Int) :
    (check E g fuel q r).1.memb = .isMember → Mem E.cfg E.T q :=
  build_sound E hc fuel (.isAllowed q (effDepth r g) false) {} {} rfl {} _

namespace C02ex

/-- `doc.view = viewers.includes || parents.traverse(p => p.view)`, `folder.view = viewers.includes`. -/
def cfg : Cfg := [
  ⟨"doc", [⟨"viewers", [⟨"user", ""⟩], none⟩,
           ⟨"parents", [⟨"folder", ""⟩], none⟩,
           ⟨"view", [], some ⟨.or, [.computed "viewers", .ttu "parents" "view"]⟩⟩]⟩,
  ⟨"folder", [⟨"viewers", [⟨"user", ""⟩], none⟩,
              ⟨"view", [], some ⟨.or, [.computed "viewers"]⟩⟩]⟩]

def env : Env where
  cfg := cfg
  strict := false
  maxWidth := 100
  T := [⟨"doc", 1, "parents", .set "folder" 2 ""⟩,
        ⟨"folder", 2, "viewers", .id 7⟩,
        ⟨"doc", 1, "viewers", .id 8⟩]
  fails := fun _ => false
  pageSize := 100

def q : Tuple := ⟨"doc", 1, "view", .id 7⟩

end C02ex

-- `C02_fail_closed_pos`: its hypothesis holds, and the limits matter — the member found with global
-- depth 5 is lost, with a limit event, at request depth 1.
example : Cfg.pos C02ex.env.cfg ∧
    (check C02ex.env 5 200 C02ex.q 0).1.memb = .isMember ∧
    (check C02ex.env 5 200 C02ex.q 1).1.memb ≠ .isMember ∧
    0 < (check C02ex.env 5 200 C02ex.q 1).2.limitHits :=
  ⟨Cfg.pos_of_posB (by decide), by decide, by decide, by decide⟩

end Keto
