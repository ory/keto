/-
  C01 — check decisions equal the relationship-graph semantics.

  Model: Keto/Model/Engine.lean.  Spec: Keto/Spec/Membership.lean (`Mem`), Positive.lean.  Lemmas:
  Keto/Proofs/EngineSound.lean, FactsTie.lean.
  Here: soundness without `!`.  Completeness: C01complete.lean.  All configurations: C01exact.lean.
  The run-time oracle `refEval`: C01ref.lean, C01neg.lean.
-/
import Keto.Model.Engine
import Keto.Spec.Membership
import Keto.Spec.Positive
import Keto.Proofs.FactsTie
import Keto.Proofs.EngineSound

namespace Keto

/-- The depth tests, depth arguments and `skipDirect` literals of every recursive call in
    engine.go / rewrites.go MEAN what `Keto.build` encodes: the conditions and arguments are translated
    from the Go expressions on every run (`Facts.cond<i>`, `Facts.arg<i>`) and compared as functions
    on `Int`; the sites are compared as tables. -/
theorem C01_depth_sites_tie :
    (∀ g r : Int, Facts.cond0 g r = decide (r ≤ 0 ∨ g < r)) ∧
    (∀ d : Int, Facts.cond1 d = decide (d ≤ 0) ∧ Facts.cond2 d = decide (d ≤ 0) ∧ Facts.cond3 d = decide (d ≤ 0) ∧
      Facts.cond4 d = decide (d ≤ 0)) ∧
    (∀ d : Int, Facts.cond5 d = decide (d < 0) ∧ Facts.cond6 d = decide (d < 0) ∧ Facts.cond7 d = decide (d < 0)) ∧
    (∀ d : Int, Facts.arg3 d = d - 1 ∧ Facts.arg4 d = d - 1 ∧ Facts.arg5 d = d - 1 ∧ Facts.arg8 d = d - 1 ∧
      Facts.arg14 d = d - 1 ∧ Facts.arg15 d = d - 1) ∧
    (Facts.depthArgs == FactsTie.expectedArgSites) = true ∧ (FactsTie.callLits == FactsTie.expectedCallLits) = true :=
  ⟨fun g r => (FactsTie.clamp_sem g r).1, FactsTie.guards_le0_sem, FactsTie.guards_lt0_sem, FactsTie.args_minus1_sem,
   FactsTie.argSites_tie, FactsTie.callLits_tie⟩

/-- Soundness without `!`: an `isMember` answer implies membership in the Zanzibar semantics — for every
    store, limits, fault oracle, fuel, strict mode or not. -/
theorem C01_sound_pos (E : Env) (hc : Cfg.pos E.cfg) (g : Int) (fuel : Nat) (q : Tuple) (r : Int) :
    (check E g fuel q r).1.memb = .isMember → Mem E.cfg E.T q :=
  build_sound E hc fuel (.isAllowed q (effDepth r g) false) {} {} rfl {} _

namespace C01ex

/-- `doc.view = viewers.includes || parents.traverse(p => p.view)`, `folder.view = viewers.includes`. -/
def cfg : Cfg := [
  ⟨"doc", [⟨"viewers", [⟨"user", ""⟩], none⟩,
           ⟨"parents", [⟨"folder", ""⟩], none⟩,
           ⟨"view", [], some ⟨.or, [.computed "viewers", .ttu "parents" "view"]⟩⟩]⟩,
  ⟨"folder", [⟨"viewers", [⟨"user", ""⟩], none⟩,
              ⟨"view", [], some ⟨.or, [.computed "viewers"]⟩⟩]⟩]

def env : Env where
  cfg := cfg
  strict := false
  maxWidth := 100
  T := [⟨"doc", 1, "parents", .set "folder" 2 ""⟩,
        ⟨"folder", 2, "viewers", .id 7⟩,
        ⟨"doc", 1, "viewers", .id 8⟩]
  fails := fun _ => false
  pageSize := 100

/-- user 7 may view doc 1 through the parent folder 2. -/
def q : Tuple := ⟨"doc", 1, "view", .id 7⟩

end C01ex

-- `C01_sound_pos`: hypothesis and premise are met (through the tuple-to-subject-set branch).
example : Cfg.pos C01ex.env.cfg ∧ (check C01ex.env 5 200 C01ex.q 0).1.memb = .isMember :=
  ⟨Cfg.pos_of_posB (by decide), by decide⟩

-- … and the model does not answer `isMember` for everybody.
example : (check C01ex.env 5 200 ⟨"doc", 1, "view", .id 9⟩ 0).1 = Res.nm := by decide

-- `C01_sound_pos` applied: the conclusion is derived from the engine's answer.
example : Mem C01ex.env.cfg C01ex.env.T C01ex.q :=
  C01_sound_pos C01ex.env (Cfg.pos_of_posB (by decide)) 5 200 C01ex.q 0 (by decide)

end Keto
