/-
  C12 — the OPL parser is total: any input terminates with a diagnosis.

  Model: `parse : List UInt8 → ParseResult` (Keto/Model/{Lexer,Parser,Typecheck}.lean), `schema.Parse` on an
  arbitrary byte string, with an explicit `panic` outcome at every slice / index site of lexer.go, parser.go and
  parse_errors.go and wherever a loop could run out of fuel: "never panics, always terminates" is a theorem and
  not a by-product of Lean's totality.
  Lemmas: Keto/Proofs/OplLexLemmas.lean, OplLoops.lean, TypecheckErrors.lean, OplSrcPos.lean; the examples on source
  text are evaluated through `lexZ` (OplLexZipper.lean).

  Linear time holds for the lexer and the parser and fails in the type check (finding F-tc-exp). Not covered: that
  the REST and the gRPC syntax endpoints return the same errors.
-/
import Keto.Proofs.OplSrcPos
import Keto.Proofs.OplLoops
import Keto.Proofs.TypecheckErrors
import Keto.Proofs.OplLexZipper

namespace Keto
open Keto.Opl

/-- The content is `panic = false`: every slice / index site and fuel exhaustion are `panic` outcomes of the
    model. The second conjunct is a tautology. -/
theorem C12_total (s : List UInt8) :
    (parse s).panic = false ∧ ((parse s).errors ≠ [] ∨ (parse s).errors = []) := by
  refine ⟨?_, by cases (parse s).errors <;> simp⟩
  have hp : (synOf s).panic = false := (parseItems_ok Pos.any (lex s.toArray).items (fun _ _ => trivial)).1
  rw [parse_panic, (lex_ok s.toArray).1, hp]
  rfl

/-- Every item of the lexer and every error of `Parse` (syntax and type errors) has `start ≤ end ≤ |s|`; the line
    numbers of `ToAPI` / `ToProto` (`toSrcPos`, rune-wise as in parse_errors.go) satisfy
    `1 ≤ line(start) ≤ line(end) ≤ rows(s)`, and `Error()` never indexes the rows out of range. -/
theorem C12_positions (s : List UInt8) :
    (∀ i ∈ (lex s.toArray).items, i.start ≤ i.stop ∧ i.stop ≤ s.length) ∧
    ∀ e ∈ (parse s).errors,
      e.start ≤ e.stop ∧ e.stop ≤ s.length ∧
      1 ≤ (toSrcPos s e.start).line ∧ (toSrcPos s e.start).line ≤ (toSrcPos s e.stop).line ∧
      (toSrcPos s e.stop).line ≤ rowCount s ∧ (renderError s e).panic = false := by
  refine ⟨lex_items_inRange s, fun e he => ?_⟩
  have h := parse_errors_ok (Pos.inRange s.length) s (lex_items_inRange s) e he
  exact ⟨h.1, h.2, (toSrcPos_line s e.start).1, toSrcPos_mono s _ _ h.1, (toSrcPos_line s e.stop).2,
    renderError_no_panic s e⟩

/-- Every state-function call consumes input or ends the scan: at most `16·|s| + 10` steps (calls of `next` and of
    state functions) and `|s| + 1` items. -/
theorem C12_lex_linear (s : List UInt8) :
    (lex s.toArray).steps ≤ 16 * s.length + 10 ∧ (lex s.toArray).items.length ≤ s.length + 1 := by
  have h := lex_ok s.toArray
  simpa using And.intro h.2.2.2 h.2.2.1

/-- Every loop iteration of the parser consumes an item or is the last one of its loop: at most `100·|items| + 90`
    steps (calls of `next`, loop iterations), hence at most `116·|s| + 200` for lexing and parsing together. The
    type check is not included. -/
theorem C12_parse_linear (s : List UInt8) :
    (parse s).parseSteps ≤ 100 * (parse s).nItems + 90 ∧
    (parse s).lexSteps + (parse s).parseSteps ≤ 116 * s.length + 200 := by
  have hp : (synOf s).steps ≤ _ := parseItems_steps (lex s.toArray).items
  have hl := C12_lex_linear s
  rw [parse_parseSteps, parse_nItems, parse_lexSteps]
  exact ⟨hp, by omega⟩

namespace C12ex

/-- `class A implements Namespace {` newline ` #` : a stray byte on line 2. -/
def stray : List UInt8 := b!"class A implements Namespace {\n #"
/-- An unterminated block comment after invalid UTF-8. -/
def unclosed : List UInt8 := [0xff, 0xfe, 10] ++ b!"/* never closed"
def good : List UInt8 :=
  b!"class A implements Namespace { related: { r: A[] } permits = { p: (ctx) => this.related.r.includes(ctx.subject) } }"

end C12ex

open C12ex in
/-- `good` lexed and parsed by the kernel, once for the three examples below. -/
theorem C12ex.parse_good :
    ((parse good).errors = [] ∧ (parse good).namespaces.length = 1 ∧ (parse good).panic = false) ∧
    ((lex good.toArray).items.length = 38 ∧ 0 < (lex good.toArray).steps) ∧
    (parse good).nItems = 38 ∧ 38 ≤ (parse good).parseSteps := by
  simp only [parse, lex_eq_lexZ]
  decide +kernel

-- `C12_positions` on a stray byte: one error, byte 32, line 2
open C12ex in
example : (parse stray).errors.map (fun e => (e.start, e.stop, (toSrcPos stray e.start).line)) = [(32, 32, 2)] := by
  simp only [parse, lex_eq_lexZ]
  decide +kernel
-- `C12_positions` after invalid UTF-8: the lexer's error item at 0:0, line 1 of 2
open C12ex in
example : (parse unclosed).errors.map (fun e => (e.kind, e.start, e.stop, (toSrcPos unclosed e.start).line,
    (toSrcPos unclosed e.stop).line, rowCount unclosed)) = [(.fatalLex .unexpectedToken, 0, 0, 1, 1, 2)] := by
  decide +kernel
-- `C12_total`: the model also accepts
open C12ex in
example : (parse good).errors = [] ∧ (parse good).namespaces.length = 1 ∧ (parse good).panic = false := parse_good.1
-- `C12_lex_linear`: the counters count (38 items from 115 bytes)
open C12ex in
example : (lex good.toArray).items.length = 38 ∧ 0 < (lex good.toArray).steps := parse_good.2.1
-- `C12_parse_linear`: at least one step per item
open C12ex in
example : (parse good).nItems = 38 ∧ 38 ≤ (parse good).parseSteps := parse_good.2.2

/- Linear time of the type check:

    theorem C12_typecheck_linear : ∃ a b, ∀ s, (parse s).tcSteps ≤ a * s.length + b

  `recursiveCheckAllRelationsTypesHaveRelation` follows every SubjectSet type to depth
  `tupleToSubjectSetTypeCheckMaxDepth` without memoisation.
  Refuted by `C12_typecheck_exponential_counterexample` (finding F-tc-exp). -/

namespace C12ex

/-- `this.related.a.traverse(x => x.related.a.includes(ctx.subject))` inside namespace `N`. -/
def famCheck : TypeCheck := .allTypesHaveRelation "N" ⟨.identifier, b!"a", 0, 0, .none⟩ "a"

/-- Steps of the deferred check on
    `class N implements Namespace { related: { a: (SubjectSet<N,"a"> | … k times)[] } permits = { p: (ctx) => … } }`,
    a document of `152 + 21·k` bytes (corpus/C12/typecheck-exponential.case). -/
def famSteps (k : Nat) : Nat := (runCheck (famNss k) famCheck {}).steps

end C12ex

open C12ex in
/-- Finding F-tc-exp: with `k` SubjectSet types on the self-referential relation the single traverse check takes at
    least `k^(maxDepth+1) = k^11` steps on an input of `152 + 21·k` bytes — a polynomial of degree 11 in the input
    size, exponential in the depth limit; no bound `a·|s| + b` holds. -/
theorem C12_typecheck_exponential_counterexample :
    (∀ k, k ^ (Keto.Facts.tupleToSubjectSetTypeCheckMaxDepth + 1) ≤ famSteps k) ∧
    ∀ a b : Nat, ∃ k, a * (152 + 21 * k) + b < famSteps k :=
  have h : ∀ k, k ^ (Keto.Facts.tupleToSubjectSetTypeCheckMaxDepth + 1) ≤ famSteps k :=
    fun k => runCheck_fam_steps k _ _ (by decide)
  ⟨h, exceeds_linear (by decide) h 152 21⟩

namespace C12ex
/-- The family as source text, `k = 1` and `k = 2` (the corpus documents). -/
def famDoc1 : List UInt8 :=
  b!"class N implements Namespace {\n related: {\n  a: (SubjectSet<N, \"a\">)[]\n }\n permits = {\n  p: (ctx) => this.related.a.traverse((x) => x.related.a.includes(ctx.subject)),\n }\n}\n"
def famDoc2 : List UInt8 :=
  b!"class N implements Namespace {\n related: {\n  a: (SubjectSet<N, \"a\"> | SubjectSet<N, \"a\">)[]\n }\n permits = {\n  p: (ctx) => this.related.a.traverse((x) => x.related.a.includes(ctx.subject)),\n }\n}\n"
end C12ex

-- the family as `parse` sees its source text: 173 bytes, one error
open C12ex in
example : famDoc1.length = 152 + 21 * 1 ∧ (parse famDoc1).errors.length = 1 ∧ (parse famDoc1).tcSteps = 26 := by
  simp only [parse, lex_eq_lexZ]
  decide +kernel
-- … and 194 bytes, `2^11` errors
open C12ex in
example : famDoc2.length = 152 + 21 * 2 ∧ (parse famDoc2).errors.length = 2 ^ 11 := by
  simp only [parse, lex_eq_lexZ]
  decide +kernel

end Keto
