/-
  C06 — networks (tenants) sharing a database are fully isolated.

  Model: every row carries its network id; every statement of the persister carries `nid = ?`
  (`inNet` in `hits`, `listed`, `cands`; `mkRows` stamps inserted rows).  `view B s` is everything network
  `B` has in the table, WITH shard ids and order.  The mapping table is global by design (ids are
  UUIDv5(network, string)); it is not an observation of `B` in the model.
  Lemmas: Keto/Proofs/StoreTable.lean (the table), Keto/Proofs/StoreLemmas.lean (requests).
  Not proved here: check and expand across networks.  The model covers list, exists, write and delete; the
  traversal rests on `FactsTie.sqlNid_tie` (Keto/Proofs/FactsTieSql.lean, built alongside through verifprops.py,
  not imported here) and on the streams.
-/
import Keto.Model.Store
import Keto.Proofs.StoreLemmas
import Keto.Generated.Facts

namespace Keto.Store

/-- Frame: a history of requests issued in networks other than `B` (any calls, valid or not, delete-by-empty-
    query and failing transactions included) leaves what `B` has in the table unchanged, and with it every
    observation `B` can make: a page, `exists`, a complete listing, the API's answers to list requests. -/
theorem C06_frame (ck : Chunking) (cfg : Names) (fail : Oracle) (B : Nat) (h : History)
    (hB : ∀ x ∈ h, x.1 ≠ B) (db : DB) :
    view B (run ck cfg fail h db).2.rows = view B db.rows ∧
    (∀ q size tok, getPage B q size tok (run ck cfg fail h db).2.rows = getPage B q size tok db.rows) ∧
    (∀ q, existsTuples B q (run ck cfg fail h db).2.rows = existsTuples B q db.rows) ∧
    (∀ q size f tok, follow B q size (run ck cfg fail h db).2.rows f tok = follow B q size db.rows f tok) ∧
    (∀ q size tok, (step ck cfg fail B (.list q size tok) (run ck cfg fail h db).2).1 =
                   (step ck cfg fail B (.list q size tok) db).1) ∧
    (∀ q size tok, (step ck cfg fail B (.pList q size tok) (run ck cfg fail h db).2).1 =
                   (step ck cfg fail B (.pList q size tok) db).1) ∧
    (∀ q, (step ck cfg fail B (.pExists q) (run ck cfg fail h db).2).1 =
          (step ck cfg fail B (.pExists q) db).1) := by
  have hv := run_view B ck cfg fail h hB db
  have hpage : ∀ q size tok, getPage B q size tok (run ck cfg fail h db).2.rows = getPage B q size tok db.rows := by
    intro q size tok
    rw [← getPage_view, hv, getPage_view]
  have hex : ∀ q, existsTuples B q (run ck cfg fail h db).2.rows = existsTuples B q db.rows := by
    intro q
    rw [← existsTuples_view, hv, existsTuples_view]
  have hplist : ∀ q size tok, (pList B q size tok (run ck cfg fail h db).2).1 = (pList B q size tok db).1 := by
    intro q size tok
    simp only [pList, hpage]
    cases getPage B q size tok db.rows <;> rfl
  refine ⟨hv, hpage, hex, ?_, ?_, ?_, ?_⟩
  · intro q size f tok
    rw [← follow_view, hv, follow_view]
  · intro q size tok
    cases q with
    | none => rfl
    | some q =>
      show (listReq ck cfg B (some q) size tok _).1 = (listReq ck cfg B (some q) size tok db).1
      rw [listReq_some, listReq_some]
      cases fromQuery cfg q with
      | error e => rfl
      | ok iq => exact hplist iq size tok
  · exact hplist
  · intro q
    simp only [step, pExists, hex]

/-- The first conjunct of `C06_frame` for histories of one network `A`. -/
theorem C06_frame_single (ck : Chunking) (cfg : Names) (fail : Oracle) (A B : Nat) (hAB : A ≠ B) (ops : List Op)
    (db : DB) :
    view B (run ck cfg fail (ops.map fun op => (A, op)) db).2.rows = view B db.rows :=
  run_view B ck cfg fail _ (by
    intro x hx
    obtain ⟨op, _, rfl⟩ := List.mem_map.mp hx
    exact hAB) db

/-- No leak: a page listed in network `A` contains only rows of `A`, `exists` in `A` is witnessed by a row of
    `A`, and both are computed from `view A` alone. -/
theorem C06_no_leak (A : Nat) (q : Query) (size : Int) (tok : Token) (s : Store) :
    (∀ p, getPage A q size tok s = .ok p → ∀ r ∈ p.rows, r.nid = A) ∧
    (existsTuples A q s = true → ∃ r ∈ s, r.nid = A ∧ q.matches r.t = true) ∧
    getPage A q size tok s = getPage A q size tok (view A s) ∧
    existsTuples A q s = existsTuples A q (view A s) := by
  refine ⟨?_, ?_, (getPage_view A q size tok s).symm, (existsTuples_view A q s).symm⟩
  · exact fun p hp r hr => (hits_iff.mp (mem_getPage hp hr).2).1
  · intro h
    obtain ⟨r, hr, hh⟩ := List.any_eq_true.mp h
    exact ⟨r, hr, hits_iff.mp hh⟩

def expectedNidFacts : List (String × String × String) := [
  ("internal/persistence/sql/persister.go", "Persister.queryWithNetwork", "nid = ?"),
  ("internal/persistence/sql/relationtuples.go", "Persister.GetRelationTuples", "call:queryWithNetwork"),
  ("internal/persistence/sql/relationtuples.go", "Persister.ExistsRelationTuples", "call:queryWithNetwork"),
  ("internal/persistence/sql/relationtuples.go", "Persister.DeleteAllRelationTuples", "call:queryWithNetwork"),
  ("internal/persistence/sql/traverser.go", "Traverser.TraverseSubjectSetRewrite", "call:queryWithNetwork"),
  ("internal/persistence/sql/relationtuples.go", "buildDelete", "DELETE FROM %s WHERE (%s) AND nid = ?")]

/-- The raw-SQL traversal and the mapping lookup are left out. -/
def popReaders : List (String × String) :=
  (Facts.sqlStrings.filter fun e =>
      (e.2.2 == "call:All" || e.2.2 == "call:Exists" || e.2.2 == "call:Delete")
      && e.2.1 != "Traverser.TraverseSubjectSetExpansion" && e.2.1 != "Persister.batchFromUUIDs").map
    fun e => (e.1, e.2.1)

/-- The `nid` predicates the model encodes are in the sources.  The regenerated SQL fact table records, per
    function of `persistence/sql`, its SQL literals and which selectors its body calls: every function that
    reads or deletes through a pop query (4; Get/Exists/DeleteAll and the rewrite traversal) calls
    `queryWithNetwork`, whose literal is `nid = ?`; `buildDelete` ends in `AND nid = ?`.  It does not record that
    the query built there is the one executed: read off the source (trusted).  The raw SQL of
    `TraverseSubjectSetExpansion` is left to `FactsTie.sqlNid_tie`: comparing its 600-character literal in the
    kernel is slow. -/
theorem C06_sql_nid :
    (∀ e ∈ expectedNidFacts, e ∈ Facts.sqlStrings) ∧
    (∀ w ∈ popReaders, (w.1, w.2, "call:queryWithNetwork") ∈ Facts.sqlStrings) ∧
    popReaders.length = 4 := by decide +kernel

namespace C06ex

def cfg : Names := ["doc"]
def a : ATuple := { ns := "doc", obj := 1, rel := "viewer", sid := some 7 }
def ta : Tuple := ⟨"doc", 1, "viewer", .id 7⟩

def db : DB := { rows := [⟨10, 0, ta⟩, ⟨20, 1, ta⟩, ⟨30, 0, ta⟩], maps := [] }

def h0 : History := [(0, .grpcDelete (some {})), (0, .pDeleteAll {}), (0, .restCreate a 5),
  (0, .restPatch [⟨.delete, some a, 0⟩]), (0, .pDelete [ta])]

-- `C06_frame`: the history does change the table (network 0 ends up empty) …
example : (run {} cfg noFail h0 db).2.rows = [⟨20, 1, ta⟩] := by decide
-- … its first conjunct …
example : view 1 (run {} cfg noFail h0 db).2.rows = view 1 db.rows := by decide
-- … `C06_no_leak`: network 0 never saw the row of network 1.
example : (matching 0 {} db.rows).map (·.shard) = [10, 30] ∧ (matching 1 {} db.rows).map (·.shard) = [20] := by decide

end C06ex

end Keto.Store
