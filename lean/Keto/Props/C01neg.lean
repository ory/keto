/-
  C01 — the run-time oracle `refEval` against the declarative semantics with stratified negation, for
  ALL configurations, `!` included.

  Model: Keto/Model/Engine.lean (for `C01_engine_iff_tr_pos`).  Spec: Keto/Spec/Membership.lean (`refEval`,
  `Mem`), Keto/Spec/Stratified.lean (`Tr` / `Fa`).  Lemmas: Keto/Proofs/StratifiedLemmas.lean.

  Nothing is claimed about a `bad` answer (fuel exhausted, undeclared relation that matters, cycle through a
  negation = the instance is not stratified), except on `p = !p`, where it is the only answer
  (`refEval_not_stratified_bad`).
-/
import Keto.Model.Engine
import Keto.Spec.Membership
import Keto.Spec.Positive
import Keto.Spec.Stratified
import Keto.Proofs.EngineSound
import Keto.Proofs.StratifiedLemmas
import Keto.Props.C01complete

namespace Keto

namespace C01negex

/-- `doc.view = viewers || parents.traverse(view)`, `doc.ok = view && !banned`; groups contain users
    and groups. -/
def cfg : Cfg := [
  ⟨"group", [⟨"member", [⟨"user", ""⟩, ⟨"group", "member"⟩], none⟩]⟩,
  ⟨"doc", [⟨"viewers", [⟨"group", "member"⟩], none⟩,
           ⟨"parents", [⟨"doc", ""⟩], none⟩,
           ⟨"banned", [⟨"group", "member"⟩], none⟩,
           ⟨"view", [], some ⟨.or, [.computed "viewers", .ttu "parents" "view"]⟩⟩,
           ⟨"ok", [], some ⟨.and, [.computed "view", .invert (.computed "banned")]⟩⟩]⟩]

/-- Groups 1 ↔ 2 contain each other and users 7, 8; groups 3 ↔ 4 contain each other and user 8.  Group 1
    views doc 1, the parent of doc 2; group 3 is banned from doc 2. -/
def T : List Tuple := [
  ⟨"group", 1, "member", .set "group" 2 "member"⟩,
  ⟨"group", 2, "member", .set "group" 1 "member"⟩,
  ⟨"group", 2, "member", .id 7⟩,
  ⟨"group", 2, "member", .id 8⟩,
  ⟨"group", 3, "member", .set "group" 4 "member"⟩,
  ⟨"group", 4, "member", .set "group" 3 "member"⟩,
  ⟨"group", 4, "member", .id 8⟩,
  ⟨"doc", 1, "viewers", .set "group" 1 "member"⟩,
  ⟨"doc", 2, "parents", .set "doc" 1 ""⟩,
  ⟨"doc", 2, "banned", .set "group" 3 "member"⟩]

-- `cfgP` (`p = !p`) is in Keto/Proofs/StratifiedLemmas.lean.

/-- `a = !b`, `b = a`: the cycle through the negation spans two relations. -/
def cfgAB : Cfg := [⟨"x", [⟨"a", [], some ⟨.or, [.invert (.computed "b")]⟩⟩,
                           ⟨"b", [], some ⟨.or, [.computed "a"]⟩⟩]⟩]

end C01negex

/-- The stratified semantics is consistent. -/
theorem tr_fa_exclusive (c : Cfg) (T : List Tuple) (t : Tuple) : ¬ (Tr c T t ∧ Fa c T t) :=
  fun h => h.1.not_fa h.2

/-- Soundness of the reference evaluator, every configuration. -/
theorem refEval_sound_all (c : Cfg) (T : List Tuple) (fuel : Nat) (q : Tuple) :
    refEval c T fuel [] 0 (.node q) = .t → Tr c T q :=
  fun h => (refEval_spec fuel [] 0 (.node q) (fun _ hp => by cases hp)).1 h

/-- Completeness of the reference evaluator, every configuration: an `f` answer is backed by a closed
    refutation. -/
theorem refEval_complete_all (c : Cfg) (T : List Tuple) (fuel : Nat) (q : Tuple) :
    refEval c T fuel [] 0 (.node q) = .f → Fa c T q :=
  fun h => (refEval_spec fuel [] 0 (.node q) (fun _ hp => by cases hp)).2 h

/-- The evaluator's answers on `C01negex` that the examples below rest on (evaluated once). -/
theorem C01negex.ref_ok7 : refEval cfg T 20 [] 0 (.node ⟨"doc", 2, "ok", .id 7⟩) = .t := by decide
theorem C01negex.ref_ok8 : refEval cfg T 20 [] 0 (.node ⟨"doc", 2, "ok", .id 8⟩) = .f := by decide

-- hypotheses of `refEval_sound_all` / `refEval_complete_all` on `C01negex`: the configuration uses `!` …
example : C01negex.cfg.posB = false := by decide

-- … user 7 is `ok` on doc 2: a viewer of the parent (behind the group cycle 1 ↔ 2) and not banned (the
-- refutation of `banned` runs into the group cycle 3 ↔ 4 below the `!`);
example : refEval C01negex.cfg C01negex.T 20 [] 0 (.node ⟨"doc", 2, "ok", .id 7⟩) = .t := C01negex.ref_ok7

-- user 8 is a viewer but banned: `f` because the negated child holds;
example : refEval C01negex.cfg C01negex.T 20 [] 0 (.node ⟨"doc", 2, "view", .id 8⟩) = .t ∧
    refEval C01negex.cfg C01negex.T 20 [] 0 (.node ⟨"doc", 2, "banned", .id 8⟩) = .t ∧
    refEval C01negex.cfg C01negex.T 20 [] 0 (.node ⟨"doc", 2, "ok", .id 8⟩) = .f :=
  ⟨by decide, by decide, C01negex.ref_ok8⟩

-- user 9 is in no group: `f` through the positive part (cycle cut at level 0).
example : refEval C01negex.cfg C01negex.T 20 [] 0 (.node ⟨"doc", 2, "ok", .id 9⟩) = .f := by decide

-- conclusion of `refEval_sound_all`, derived:
example : Tr C01negex.cfg C01negex.T ⟨"doc", 2, "ok", .id 7⟩ :=
  refEval_sound_all _ _ 20 _ C01negex.ref_ok7

-- conclusion of `refEval_complete_all`, derived:
example : Fa C01negex.cfg C01negex.T ⟨"doc", 2, "ok", .id 8⟩ :=
  refEval_complete_all _ _ 20 _ C01negex.ref_ok8

-- too little fuel: `bad`, about which nothing is claimed.
example : refEval C01negex.cfg C01negex.T 6 [] 0 (.node ⟨"doc", 2, "ok", .id 7⟩) = .bad := by decide

/-- On the non-stratified instance `p = !p` the semantics is silent — neither `Tr` nor `Fa` — and
    the evaluator answers `bad` with EVERY fuel. -/
theorem refEval_not_stratified_bad (o : Nat) (sub : Subject) :
    ¬ Tr C01negex.cfgP [] ⟨"x", o, "p", sub⟩ ∧ ¬ Fa C01negex.cfgP [] ⟨"x", o, "p", sub⟩ ∧
    ∀ fuel, refEval C01negex.cfgP [] fuel [] 0 (.node ⟨"x", o, "p", sub⟩) = .bad := by
  have hiff := C01negex.cfgP_tr_iff_fa o sub
  have hntr : ¬ Tr C01negex.cfgP [] ⟨"x", o, "p", sub⟩ :=
    fun h => tr_fa_exclusive _ _ _ ⟨h, hiff.1 h⟩
  have hnfa : ¬ Fa C01negex.cfgP [] ⟨"x", o, "p", sub⟩ :=
    fun h => tr_fa_exclusive _ _ _ ⟨hiff.2 h, h⟩
  refine ⟨hntr, hnfa, fun fuel => ?_⟩
  cases e : refEval C01negex.cfgP [] fuel [] 0 (.node ⟨"x", o, "p", sub⟩) with
  | bad => rfl
  | t => exact absurd (refEval_sound_all _ _ fuel _ e) hntr
  | f => exact absurd (refEval_complete_all _ _ fuel _ e) hnfa

-- instance of `refEval_not_stratified_bad` (the bound on the fuel is not needed) …
example : ∀ fuel, fuel < 40 →
    refEval C01negex.cfgP [] fuel [] 0 (.node ⟨"x", 1, "p", .id 7⟩) = .bad :=
  fun fuel _ => (refEval_not_stratified_bad 1 (.id 7)).2.2 fuel

-- … and `bad` for every fuel below 40 (evaluated) on `cfgAB`: no theorem covers this instance.
example : ∀ fuel, fuel < 40 →
    refEval C01negex.cfgAB [] fuel [] 0 (.node ⟨"x", 1, "a", .id 7⟩) = .bad ∧
    refEval C01negex.cfgAB [] fuel [] 0 (.node ⟨"x", 1, "b", .id 7⟩) = .bad := by decide

/-- The reference evaluator decides the stratified semantics whenever it answers. -/
theorem refEval_decides (c : Cfg) (T : List Tuple) (fuel : Nat) (q : Tuple) :
    (refEval c T fuel [] 0 (.node q) = .t → Tr c T q ∧ ¬ Fa c T q) ∧
    (refEval c T fuel [] 0 (.node q) = .f → Fa c T q ∧ ¬ Tr c T q) := by
  constructor
  · intro h
    have htr := refEval_sound_all c T fuel q h
    exact ⟨htr, fun hfa => tr_fa_exclusive c T q ⟨htr, hfa⟩⟩
  · intro h
    have hfa := refEval_complete_all c T fuel q h
    exact ⟨hfa, fun htr => tr_fa_exclusive c T q ⟨htr, hfa⟩⟩

-- the `¬` halves of `refEval_decides`, derived:
example : ¬ Fa C01negex.cfg C01negex.T ⟨"doc", 2, "ok", .id 7⟩ :=
  ((refEval_decides _ _ 20 _).1 C01negex.ref_ok7).2

-- … and for an `f` answer:
example : ¬ Tr C01negex.cfg C01negex.T ⟨"doc", 2, "ok", .id 8⟩ :=
  ((refEval_decides _ _ 20 _).2 C01negex.ref_ok8).2

/-- Two fuels that both give an answer give the same answer. -/
theorem refEval_fuel_independent (c : Cfg) (T : List Tuple) (fuel₁ fuel₂ : Nat) (q : Tuple) :
    refEval c T fuel₁ [] 0 (.node q) ≠ .bad → refEval c T fuel₂ [] 0 (.node q) ≠ .bad →
    refEval c T fuel₁ [] 0 (.node q) = refEval c T fuel₂ [] 0 (.node q) := by
  intro h1 h2
  have h := (refEval_t_iff_tr h1).trans (refEval_t_iff_tr h2).symm
  cases e1 : refEval c T fuel₁ [] 0 (.node q) with
  | bad => exact absurd e1 h1
  | t => exact (h.1 e1).symm
  | f =>
    cases e2 : refEval c T fuel₂ [] 0 (.node q) with
    | bad => exact absurd e2 h2
    | f => rfl
    | t => exact absurd (h.2 e2) (e1 ▸ nofun)

-- premises of `refEval_fuel_independent`: met by different fuels (and `6` does not meet them).
example : refEval C01negex.cfg C01negex.T 12 [] 0 (.node ⟨"doc", 2, "ok", .id 7⟩) ≠ .bad ∧
    refEval C01negex.cfg C01negex.T 20 [] 0 (.node ⟨"doc", 2, "ok", .id 7⟩) ≠ .bad :=
  ⟨by decide, by rw [C01negex.ref_ok7]; decide⟩

/-- On configurations without `!` the stratified semantics is the positive one. -/
theorem tr_iff_mem_pos (c : Cfg) (T : List Tuple) (hc : Cfg.pos c) (t : Tuple) :
    Tr c T t ↔ Mem c T t := by
  constructor
  · intro ⟨k, hk⟩
    exact (mem_of_trN hc _).1 _ hk
  · exact tr_of_mem

/-- The positive derivations are derivations of the stratified semantics, whatever the
    configuration (`Mem` has no rule for `!`). -/
theorem tr_of_mem_all (c : Cfg) (T : List Tuple) (t : Tuple) : Mem c T t → Tr c T t := tr_of_mem

/-- A refuted tuple is not a member in the positive semantics (any configuration). -/
theorem fa_not_mem (c : Cfg) (T : List Tuple) (t : Tuple) : Fa c T t → ¬ Mem c T t :=
  fun hfa hmem => tr_fa_exclusive c T t ⟨tr_of_mem hmem, hfa⟩

-- hypothesis of `tr_iff_mem_pos` on the positive cyclic store of `C01cex`, and a member:
example : Cfg.pos C01cex.cfg ∧ Tr C01cex.cfg C01cex.env.T ⟨"doc", 1, "view", .id 7⟩ :=
  ⟨Cfg.pos_of_posB (by decide), refEval_sound_all _ _ 20 _ C01cex.ref_d1u7⟩

-- hypothesis of `fa_not_mem` on the same store:
example : Fa C01cex.cfg C01cex.env.T ⟨"group", 1, "member", .id 9⟩ :=
  refEval_complete_all _ _ 20 _ C01cex.ref_g1u9

/-- The engine model decides the stratified semantics on the positive fragment (no error, no limit
    event).  Instance of `C01_exact_all_iff` (Keto/Props/C01exact.lean), which needs no `Cfg.pos`. -/
theorem C01_engine_iff_tr_pos (E : Env) (hc : Cfg.pos E.cfg)
    (hs : E.strict = true → conforms E.cfg E.T = true) (g : Int) (fuel : Nat) (q : Tuple) (r : Int) :
    (check E g fuel q r).1.err = none → (check E g fuel q r).2.limitHits = 0 →
    ((check E g fuel q r).1.memb = .isMember ↔ Tr E.cfg E.T q) :=
  fun herr hlim => (C01_exact_pos_general E hc hs g fuel q r herr hlim).trans (tr_iff_mem_pos E.cfg E.T hc q).symm

-- hypotheses and left side of `C01_engine_iff_tr_pos`:
example : Cfg.pos C01cex.env.cfg ∧
    (check C01cex.env 10 200 ⟨"doc", 1, "view", .id 7⟩ 0).1.err = none ∧
    (check C01cex.env 10 200 ⟨"doc", 1, "view", .id 7⟩ 0).2.limitHits = 0 ∧
    (check C01cex.env 10 200 ⟨"doc", 1, "view", .id 7⟩ 0).1.memb = .isMember :=
  ⟨Cfg.pos_of_posB (by decide), congrArg Res.err C01cex.check_d1u7.1, C01cex.check_d1u7.2,
    congrArg Res.memb C01cex.check_d1u7.1⟩

end Keto
