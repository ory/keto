/-
  C15 (checkgroup part) — every check releases its goroutines: the concurrent checkgroup
  (`concurrentCheckgroup`, internal/check/checkgroup/concurrent_checkgroup.go) behaves like the sequential
  group of the engine model and leaves no goroutine behind.

  Model: Keto/Model/Checkgroup.lean (event level; every script of results, every event list). Lemmas:
  Keto/Proofs/CheckgroupLemmas.lean. Fact tie built with C15: `FactsTie.chanSites_tie`
  (Keto/Proofs/FactsTieChan.lean, the capacities of the result channels).

  NOT proved: that a cancelled request returns promptly (observed with a timeout, stream `engine-life`), and the
  release of the goroutines that `CheckRelationTuple` and `checkInverted` start outside a group (their channels
  have capacity 1, `FactsTie.chanSites_tie`; goroutines are counted by `engine-life`). Premise of the model:
  every started check sends its result exactly once.
-/
import Keto.Model.Checkgroup
import Keto.Proofs.CheckgroupLemmas

namespace Keto.CG
open Keto

theorem cg_inv (script : Nat → Res) (es : List Ev) (s : St) (h : run script es = some s) :
    Inv false script s :=
  run_inv nofun h

/-- While the consumer is in its loop (`doneCh` not closed). The last three conjuncts say that the
    `if finalizing { continue }` branch of the `addCheckCh` case is dead: a finalizing consumer that has not
    returned has a running check, so no reservation is available and nobody holds one. -/
theorem cg_inv_open (script : Nat → Res) (es : List Ev) (s : St) (h : run script es = some s)
    (hd : s.done = none) :
    s.running.length + s.finished = s.total ∧
    s.running.length ≤ 1 ∧
    (s.token = true → s.running = [] ∧ s.holder = false) ∧
    (s.holder = true → s.running = [] ∧ s.token = false) ∧
    (∀ i ∈ s.running, i < s.nextAdd ∧ i + 1 = s.total) ∧
    s.running.Nodup ∧
    (∀ j < s.finished, (script j).decisive = false) ∧
    s.dropped = 0 ∧ s.nextAdd = s.total ∧
    (s.finalizing = true → s.running ≠ [] ∧ s.token = false ∧ s.holder = false) := by
  have I := cg_inv script es s h
  refine ⟨I.count hd, I.len_le, I.token_idle hd, I.holder_idle hd, fun i hi => ⟨I.lt_next i hi, I.last i hi⟩,
    I.nodup, I.nondec hd, I.no_drop, I.next_total, fun hf => ?_⟩
  have hr := I.finalizing_busy hd hf
  exact ⟨hr, Bool.eq_false_iff.mpr fun ht => hr (I.token_idle hd ht).1,
    Bool.eq_false_iff.mpr fun hh => hr (I.holder_idle hd hh).1⟩

/-- Once the consumer has returned: the drain goroutine is started for exactly the checks that are still running
    (each of them sends once), at most one. -/
theorem cg_inv_done (script : Nat → Res) (es : List Ev) (s : St) (h : run script es = some s)
    (hd : s.done ≠ none) :
    s.drain = s.running.length ∧ s.drain ≤ 1 ∧ s.running.Nodup ∧ s.finished ≤ s.total ∧
    (∀ i ∈ s.running, i + 1 = s.total) := by
  have I := cg_inv script es s h
  have := I.drain_eq hd
  exact ⟨this, this ▸ I.len_le, I.nodup, I.fin_le, I.last⟩

/-- The `if finalizing { continue }` branch is never taken: every check handed over to the consumer is started.
    (Two conjuncts of `cg_inv_open`, without its hypothesis `done = none`.) -/
theorem cg_no_drop (script : Nat → Res) (es : List Ev) (s : St) (h : run script es = some s) :
    s.dropped = 0 ∧ s.nextAdd = s.total :=
  ⟨(cg_inv script es s h).no_drop, (cg_inv script es s h).next_total⟩

/-- The sub-checks of one group run one at a time (in `Add` order: the running check is the one
    added last, `cg_inv_open`) — the fact the sequential engine model rests on. -/
theorem C15_cg_one_at_a_time (script : Nat → Res) (es : List Ev) (s : St)
    (h : run script es = some s) : s.running.length ≤ 1 :=
  (cg_inv script es s h).len_le

/-- Without cancellation the group answers the first decisive scripted result in `Add` order,
    else `NotMember` (`expected` is `gAdd` folded over the results: the sequential group of the
    engine model). -/
theorem C15_cg_result (script : Nat → Res) (es : List Ev) (s : St) (r : Res)
    (h : run script es = some s) (hd : s.done = some r) (hc : Ev.ctxDone ∉ es) :
    r = expected ((List.range s.total).map script) :=
  (run_inv (b := true) (fun _ => hc) h).res_strict hd

/-- Without cancellation the consumer returns only when no check is running: the drain goroutine has nothing to
    do. -/
theorem C15_cg_result_quiet (script : Nat → Res) (es : List Ev) (s : St)
    (h : run script es = some s) (hd : s.done ≠ none) (hc : Ev.ctxDone ∉ es) :
    s.finished = s.total ∧ s.running = [] ∧ s.drain = 0 := by
  have I : Inv true script s := run_inv (fun _ => hc) h
  have q := I.quiet rfl hd
  have d := I.drain_eq hd
  rw [q.2] at d
  exact ⟨q.1, q.2, d⟩

/-- The results the consumer received (`g`, recorded by the ghost run `runG`, which agrees with `run` on the
    state) are those of the checks `0, 1, …, finished-1` in this order, and the answer is the expected one for
    the received results. -/
theorem C15_cg_result_prefix (script : Nat → Res) (es : List Ev) (s : St) (g : List (Nat × Res))
    (h : runG script es = some (s, g)) :
    run script es = some s ∧
    g = (List.range s.finished).map (fun i => (i, script i)) ∧
    (∀ p ∈ g.dropLast, p.2.decisive = false) ∧
    (s.done = none → ∀ p ∈ g, p.2.decisive = false) ∧
    (∀ r, s.done = some r → Ev.ctxDone ∉ es → r = expected (g.map Prod.snd)) := by
  have hr := (runG_iff.mp h).1
  obtain rfl : g = ghostOf script s.finished := runG_ghost h
  have I := cg_inv script es s hr
  refine ⟨hr, rfl, fun p hp => ?_, fun hd p hp => ?_, fun r hd hc => ?_⟩
  · rw [ghostOf_dropLast] at hp
    have := mem_ghostOf hp
    exact this.2 ▸ I.nondec_butlast p.1 (by omega)
  · have := mem_ghostOf hp
    exact this.2 ▸ I.nondec hd p.1 this.1
  · have q := C15_cg_result_quiet script es s hr (by simp [hd]) hc
    rw [C15_cg_result script es s r hr hd hc, ghostOf, ← q.1, List.map_map]
    rfl

/-- Every run of `run` is a run of the ghost run (so `C15_cg_result_prefix` speaks about all
    runs). -/
theorem C15_cg_ghost_total (script : Nat → Res) (es : List Ev) (s : St)
    (h : run script es = some s) : ∃ g, runG script es = some (s, g) :=
  ⟨_, runG_iff.mpr ⟨h, rfl⟩⟩

/-- Cancellation can only replace the answer by the context error. -/
theorem C15_cg_ctx (script : Nat → Res) (es : List Ev) (s : St) (r : Res)
    (h : run script es = some s) (hd : s.done = some r) :
    r = ctxErr ∨ r = expected ((List.range s.total).map script) := by
  rcases (cg_inv script es s h).res r hd with h | ⟨_, h⟩
  · exact Or.inr h
  · exact Or.inl h

/-- No leak, safety half (the first conjunct of `cg_inv_done`). -/
theorem C15_cg_no_leak (script : Nat → Res) (es : List Ev) (s : St)
    (h : run script es = some s) (hd : s.done.isSome = true) : s.drain = s.running.length :=
  (cg_inv script es s h).drain_eq (by intro hn; simp [hn] at hd)

/-- No leak, progress half: after completion the receives of the drain goroutine for the checks still running
    are enabled one after the other; in the state they lead to no event is enabled: every goroutine of the group
    has terminated (given that each started check sends exactly once). -/
theorem C15_cg_drain_progress (script : Nat → Res) (es : List Ev) (s : St)
    (h : run script es = some s) (hd : s.done.isSome = true) :
    ∃ s', runFrom script s (s.running.map Ev.drainRecv) = some s' ∧
      s'.running = [] ∧ s'.drain = 0 ∧ s'.done = s.done ∧ s'.total = s.total ∧
      (∀ e, enabled s' e = false) := by
  obtain ⟨s', h1, h2, h3, h4, h5⟩ :=
    drain_progress script s.running s rfl hd (C15_cg_no_leak script es s h hd)
  refine ⟨s', h1, h2, h3, h4, h5, fun e => Bool.eq_false_iff.mpr fun he => ?_⟩
  obtain ⟨i, -, hi⟩ := enabled_of_done (h4 ▸ hd) he
  simp [h2] at hi

/-- After completion nothing but the receives of the drain goroutine can happen to the group. `_h` is not used:
    this holds of every state with `done` set, reachable or not. -/
theorem C15_cg_done_only_drain (script : Nat → Res) (es : List Ev) (s : St)
    (_h : run script es = some s) (hd : s.done.isSome = true) (e : Ev)
    (he : ∀ i, e ≠ .drainRecv i) : enabled s e = false :=
  Bool.eq_false_iff.mpr fun h => let ⟨i, hi, _⟩ := enabled_of_done hd h; he i hi

/-! ### non-vacuity -/

namespace C15cgEx

def script3 (i : Nat) : Res := [Res.nm, Res.unk, Res.isM].getD i Res.unk

def view (s : St) : Option Res × Nat × Nat × List Nat × Nat × Nat :=
  (s.done, s.total, s.finished, s.running, s.drain, s.dropped)

-- `C15_cg_result`, hypotheses and conclusion: a `finalize` while the third check runs
example :
    (run script3 [.reserve, .deliver, .result 0, .reserve, .deliver, .result 1, .reserve, .deliver,
      .finalize, .result 2]).map view = some (some Res.isM, 3, 3, [], 0, 0) := by decide

-- … which is `expected` of the three scripted results
example : expected ((List.range 3).map script3) = Res.isM := by decide

-- `C15_cg_result_prefix`: the ghost run of the same events
example :
    (runG script3 [.reserve, .deliver, .result 0, .reserve, .deliver, .result 1, .reserve, .deliver,
      .finalize, .result 2]).map Prod.snd = some [(0, Res.nm), (1, Res.unk), (2, Res.isM)] := by decide

-- `C15_cg_result` with no check: `finalize` comes first …
example : (run script3 [.finalize]).map view = some (some Res.nm, 0, 0, [], 0, 0) := by decide

-- … and (`C15_cg_done_only_drain`) a later `Add` is not handed to the consumer: it leaves through
-- `<-g.subcheckCtx.Done()`
example : run script3 [.finalize, .reserve] = none ∧ run script3 [.finalize, .deliver] = none := by
  decide

-- `cg_no_drop`: `finalize` while the first check runs, the second `Add` cannot reserve
example :
    run script3 [.reserve, .deliver, .finalize, .reserve] = none ∧
    (run script3 [.reserve, .deliver, .finalize, .result 0]).map view =
      some (some Res.nm, 1, 1, [], 0, 0) := by decide

-- `C15_cg_ctx`, `C15_cg_no_leak`: `ctxDone` while a check is running, the drain goroutine is started for one
-- receive …
example :
    (run script3 [.reserve, .deliver, .ctxDone]).map view = some (some ctxErr, 1, 0, [0], 1, 0) := by
  decide

-- … and (`C15_cg_drain_progress`) that receive ends it
example :
    (run script3 [.reserve, .deliver, .ctxDone, .drainRecv 0]).map view =
      some (some ctxErr, 1, 0, [], 0, 0) := by
  decide

end C15cgEx

end Keto.CG
