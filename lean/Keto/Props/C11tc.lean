/-
  C11 — the OPL type checker: bad references are rejected at the token the check blames (`TypeCheck.blame`: the
  offending name, except for an undeclared traverse target, which is reported at the traversed relation, as in
  typechecks.go) (converse), and acceptance gives the engine's `WellFormed` (forward; `PlainTraversals` is needed:
  finding F-ttu-type).

  Model: `Keto.Opl.typeCheck` / `runCheck` (Keto/Model/Typecheck.lean: the deferred checks of
  internal/schema/typechecks.go as data) and the parser model that emits them (Keto/Model/Parser.lean).
  Spec: `WellFormed` (Keto/Spec/WellFormed.lean).
  Lemmas: Keto/Proofs/TypecheckErrors.lean, TypecheckLemmas.lean, OplExprLemmas.lean, OplDeclLemmas.lean, OplLoops.lean;
  the examples on source text are evaluated through `lexZ` (OplLexZipper.lean).

  "Namespace names pairwise distinct" is not assumed: the type checker and the models `conformsTuple` and
  `astRelationFor` all resolve a name to the first namespace with that name, and `TypeOk` speaks about every
  namespace entry, shadowed ones included. (The code's namespace manager keeps the LAST entry of a name,
  namespace_memory.go: on documents that declare a class twice model and code differ.)
-/
import Keto.Props.C11
import Keto.Props.C10
import Keto.Proofs.TypecheckLemmas
import Keto.Proofs.OplLexZipper

namespace Keto
open Keto.Opl

/-- What a check reports does not depend on what was reported before: `checkErrs` is a function of the check. -/
theorem C11_tc_errors_exact (nss : List Namespace) (cs : List TypeCheck) (e : PErr) :
    e ∈ (typeCheck nss cs {}).errors ↔ ∃ c ∈ cs, e ∈ checkErrs nss c :=
  mem_typeCheck_errors nss cs e

/-- `T[]` (`checkNamespaceExists(T)`) with no parsed namespace named `T`: "namespace %q was not declared" at the
    token `T`. -/
theorem C11_tc_namespace (nss : List Namespace) (cs : List TypeCheck) (T : Item)
    (hc : TypeCheck.nsExists T ∈ cs) (hn : ∀ N ∈ nss, N.name ≠ bstr T.val) :
    PErr.at .nsNotDeclared T ∈ (typeCheck nss cs {}).errors := by
  refine (mem_typeCheck_errors _ _ _).mpr ⟨_, hc, ?_⟩
  simp [checkErrs, (findNsT_none_iff nss _).mpr hn]

/-- `SubjectSet<T, R>` (`checkNamespaceHasRelation(T, R)`): `T` undeclared ⇒ "namespace %q was not declared" at
    `T`; `T` declared without `R` ⇒ "namespace %q did not declare relation %q" at `R`. -/
theorem C11_tc_subjectset (nss : List Namespace) (cs : List TypeCheck) (T R : Item)
    (hc : TypeCheck.nsHasRelation T R ∈ cs) :
    ((∀ N ∈ nss, N.name ≠ bstr T.val) → PErr.at .nsNotDeclared T ∈ (typeCheck nss cs {}).errors) ∧
    (∀ N, findNsT nss (bstr T.val) = some N → (∀ r ∈ N.relations, r.name ≠ bstr R.val) →
      PErr.at .nsNoRelation R ∈ (typeCheck nss cs {}).errors) := by
  refine ⟨fun hn => (mem_typeCheck_errors _ _ _).mpr ⟨_, hc, ?_⟩,
    fun N hN hr => (mem_typeCheck_errors _ _ _).mpr ⟨_, hc, ?_⟩⟩
  · simp [checkErrs, (findNsT_none_iff nss _).mpr hn]
  · simp [checkErrs, hN, (findRelT_none_iff _ _).mpr hr]

/-- `this.related.R.includes(…)`, `this.permits.R(ctx)`, `this.related.R.traverse(…)` inside `cur`
    (`checkCurrentNamespaceHasRelation(cur, R)`): `R` not declared in `cur` ⇒ "namespace %q did not declare relation
    %q" at `R`; `cur` itself not parsed ⇒ "namespace %q was not declared", also at `R`. -/
theorem C11_tc_current_relation (nss : List Namespace) (cs : List TypeCheck) (cur : String) (R : Item)
    (hc : TypeCheck.curNsHasRelation cur R ∈ cs) :
    (∀ N, findNsT nss cur = some N → (∀ r ∈ N.relations, r.name ≠ bstr R.val) →
      PErr.at .nsNoRelation R ∈ (typeCheck nss cs {}).errors) ∧
    (findNsT nss cur = none → PErr.at .nsNotDeclared R ∈ (typeCheck nss cs {}).errors) := by
  refine ⟨fun N hN hr => (mem_typeCheck_errors _ _ _).mpr ⟨_, hc, ?_⟩,
    fun hn => (mem_typeCheck_errors _ _ _).mpr ⟨_, hc, ?_⟩⟩
  · simp [checkErrs, hN, (findRelT_none_iff _ _).mpr hr]
  · simp [checkErrs, hn]

/-- `this.related.rel.traverse(x => x.related.crel… / x.permits.crel(ctx))` inside `cur`
    (`checkAllRelationsTypesHaveRelation(cur, rel, crel)`): a plain type `N` of `rel` without `crel` ⇒ "relation %q
    was not declared in namespace %q" at the token of the traversed relation `rel` (typechecks.go passes the item of
    `rel`, not of `crel`, to `addErr`). -/
theorem C11_tc_traverse_target (nss : List Namespace) (cs : List TypeCheck) (cur : String) (rel : Item) (crel : String)
    (hc : TypeCheck.allTypesHaveRelation cur rel crel ∈ cs)
    (R : Relation) (hR : findRelationT nss cur (bstr rel.val) = some R)
    (N : String) (hN : (⟨N, ""⟩ : RelType) ∈ R.types) (hno : ¬ HasRelation nss N crel) :
    PErr.at .relNotDeclared rel ∈ (typeCheck nss cs {}).errors := by
  refine (mem_typeCheck_errors _ _ _).mpr ⟨_, hc, ?_⟩
  simp only [checkErrs, recErrs, hR, typesErrs_eq]
  refine List.mem_flatMap.mpr ⟨_, List.mem_reverse.mpr hN, ?_⟩
  have : findRelationT nss N crel = none :=
    Option.not_isSome_iff_eq_none.mp (mt (findRelationT_isSome_iff _ _ _).mp hno)
  simp [typeErrs, this]

/-- `rel` itself undeclared in `cur`: the same message at the same token (besides the error of
    `C11_tc_current_relation`). -/
theorem C11_tc_traverse_undeclared (nss : List Namespace) (cs : List TypeCheck) (cur : String) (rel : Item) (crel : String)
    (hc : TypeCheck.allTypesHaveRelation cur rel crel ∈ cs) (hR : findRelationT nss cur (bstr rel.val) = none) :
    PErr.at .relNotDeclared rel ∈ (typeCheck nss cs {}).errors := by
  refine (mem_typeCheck_errors _ _ _).mpr ⟨_, hc, ?_⟩
  simp [checkErrs, recErrs, hR]

/-- A failing check reports an error, and all its errors — those found deeper in a SubjectSet chain and the
    depth-limit error included — point at `TypeCheck.blame`: `T` / `R` of a type, the relation name of includes /
    permits, the traversed relation of traverse. -/
theorem C11_tc_rejects_at (nss : List Namespace) (cs : List TypeCheck) (c : TypeCheck) (hc : c ∈ cs)
    (hbad : ¬ checkOk nss c) :
    (∃ e ∈ (typeCheck nss cs {}).errors, e ∈ checkErrs nss c) ∧
    ∀ e ∈ checkErrs nss c, e.start = (c.blame nss).start ∧ e.stop = (c.blame nss).stop := by
  obtain ⟨e, he⟩ := exists_mem_checkErrs hbad
  exact ⟨⟨e, (mem_typeCheck_errors _ _ _).mpr ⟨c, hc, he⟩, he⟩, checkErrs_at nss c⟩

/-- `checkOk` has one clause per kind of check. `TypesHave` mirrors the depth-limited recursion of the code: a
    SubjectSet chain longer than `tupleToSubjectSetTypeCheckMaxDepth` (10) fails ("could not typecheck deeply nested
    SubjectSet further"); it says nothing about unbounded chains. -/
theorem C11_tc_accepts_iff (nss : List Namespace) (cs : List TypeCheck) :
    (typeCheck nss cs {}).errors = [] ↔ checksOk nss cs :=
  typeCheck_errors_nil nss cs

/-- `synOf s`: the parser state after the syntax phase of `Parse`. -/
theorem C11_parse_accepts_iff (s : List UInt8) :
    (parse s).errors = [] ↔ (synOf s).errors = [] ∧ checksOk (synOf s).nss (synOf s).checks :=
  parse_accepts_iff s

/-- A document with a failing deferred check is rejected; one of the errors points at the check's offending token
    unless there are syntax errors (then `Parse` reports those and does not run the type check). -/
theorem C11_parse_rejects (s : List UInt8) (c : TypeCheck) (hc : c ∈ (synOf s).checks)
    (hbad : ¬ checkOk (synOf s).nss c) :
    (parse s).errors ≠ [] ∧
    ((synOf s).errors = [] → ∃ e ∈ (parse s).errors,
      e.start = (c.blame (synOf s).nss).start ∧ e.stop = (c.blame (synOf s).nss).stop) := by
  refine ⟨fun h => hbad (((parse_accepts_iff s).mp h).2 c hc), fun hsyn => ?_⟩
  obtain ⟨e, he⟩ := exists_mem_checkErrs hbad
  exact ⟨e, (mem_parse_errors s hsyn e).mpr ⟨c, hc, he⟩, checkErrs_at _ c e he⟩

/-- Which checks a permission expression emits (from `C10_access`): includes / permits add
    `checkCurrentNamespaceHasRelation(cur, R)`; both traverse forms add `checkAllRelationsTypesHaveRelation(cur, R, C)`
    and then `checkCurrentNamespaceHasRelation(cur, R)` (`checks` is kept latest first); nothing else. Conjuncts 3–6
    unfold `Atom.checks` per spelling (no hypothesis is used). -/
theorem C11_src_permission (a : Atom) (hw : a.wf) (p : P) (rest : List Item) (hf : p.fatal = false)
    (ht : p.toks = a.toks ++ rest) :
    (parsePermissionExpression p).1 = some a.leaf ∧
    (parsePermissionExpression p).2.checks = a.checks p.ns.name ++ p.checks ∧
    (∀ b R, a = .includes b R → a.checks p.ns.name = [.curNsHasRelation p.ns.name R]) ∧
    (∀ b R, a = .permits b R → a.checks p.ns.name = [.curNsHasRelation p.ns.name R]) ∧
    (∀ b R pa v cb C, a = .traverseP b R pa v cb C →
      a.checks p.ns.name = [.curNsHasRelation p.ns.name R, .allTypesHaveRelation p.ns.name R (bstr C.val)]) ∧
    (∀ b R pa v cb C c1 c2, a = .traverseR b R pa v cb C c1 c2 →
      a.checks p.ns.name = [.curNsHasRelation p.ns.name R, .allTypesHaveRelation p.ns.name R (bstr C.val)]) := by
  rw [C10_access a hw p rest hf ht]
  exact ⟨rfl, rfl, fun _ _ h => h ▸ rfl, fun _ _ h => h ▸ rfl, fun _ _ _ _ _ _ h => h ▸ rfl,
    fun _ _ _ _ _ _ _ _ h => h ▸ rfl⟩

/-- `parseTypeUnion` on `A | SubjectSet<N, "r"> | … <end>` adds `checkNamespaceExists(A)`,
    `checkNamespaceHasRelation(N, r)`, …: one per member, in order. -/
theorem C11_src_type_union (endTok : ItemType) (hend : endTok = .angledRight ∨ endTok = .parenRight)
    (ts : List TyRef) (hne : ts ≠ []) (hw : ∀ t ∈ ts, t.wf) (n : Nat) (hn : ts.length ≤ n)
    (acc : List RelType) (p : P) (endItem : Item) (rest : List Item) (he : endItem.typ = endTok) (hf : p.fatal = false)
    (ht : p.toks = unionToks ts ++ endItem :: rest) :
    (parseTypeUnion endTok n acc p).1 = acc ++ ts.map TyRef.ty ∧
    (parseTypeUnion endTok n acc p).2.checks = (ts.map TyRef.check).reverse ++ p.checks := by
  obtain ⟨p', _, _, hc, h⟩ := typeUnion_spec endTok hend ts hne hw n hn acc p endItem rest he hf ht
  rw [h]
  exact ⟨rfl, hc⟩

/-- `C10_decls` with the checks: one deferred check per declared type (`TyRef.check`). -/
theorem C11_src_relation_decl (d : Decl) (hw : d.wf) (n : Nat) (hn : d.types.length ≤ n) (p : P) (rest : List Item)
    (hf : p.fatal = false) (ht : p.toks = d.toks ++ rest)
    (hc : d.comma = false → valIs (rest.headD brokenItem) b!"," = false) :
    ∃ p' : P, relatedLoop (n+1) p = relatedLoop n p' ∧
      p'.ns = { p.ns with relations := p.ns.relations ++ [d.relation] } ∧
      p'.checks = (d.types.map TyRef.check).reverse ++ p.checks := by
  obtain ⟨p', h, heq⟩ := related_decl d hw n hn p rest hf ht hc
  exact ⟨p', heq, h.ns, h.checks⟩

/-- For arbitrary input, error paths included: every declared type of every parsed relation has its check
    (`CovTy`), every leaf of its rewrite has its checks with `cur = N.name` (`CovChild`). -/
theorem C11_checks_cover (items : List Item) (N : Namespace) (hN : N ∈ (parseItems items).nss)
    (R : Relation) (hR : R ∈ N.relations) :
    (∀ ty ∈ R.types, CovTy (parseItems items).checks ty) ∧
    ∀ rw, R.rewrite = some rw → CovChild (parseItems items).checks N.name (.rewrite rw.op rw.children) :=
  parseItems_cov items N hN R hR

/-- `TypeOk`: every declared type resolves; every computed subject set and every traversed relation is a relation
    of its namespace; every traversal target passes `TypesHave`. -/
theorem C11_parse_typeOk (s : List UInt8) (h : (parse s).errors = []) : TypeOk (parse s).namespaces := by
  rw [parse_namespaces]
  exact typeOk_of_cov (parseItems_cov _) ((parse_accepts_iff s).mp h).2

/-- Instance of `wellFormed_of_typeOk`. -/
theorem C11_accepted_wellFormed (c : Cfg) (T : List Tuple) (hty : TypeOk c) (hpl : PlainTraversals c)
    (hconf : conforms c T = true) : WellFormed c T :=
  wellFormed_of_typeOk hty hpl hconf

/-- `TypeOk` + `PlainTraversals` + conforming store ⇒ no check of a resolvable (namespace, relation) ends in a
    schema error. -/
theorem C11_forward_typed (E : Env) (hty : TypeOk E.cfg) (hpl : PlainTraversals E.cfg)
    (hconf : conforms E.cfg E.T = true) (q : Tuple) (hq : astRelationFor E.cfg q.ns q.rel ≠ .bad)
    (g : Int) (fuel : Nat) (r : Int) : (check E g fuel q r).1.err ≠ some .schema :=
  C11_forward_partial E (wellFormed_of_typeOk hty hpl hconf) q hq g fuel r

/-- From the source text: if `Parse` accepts `s` and the engine runs on the namespaces it returned, no check of a
    declared (namespace, relation) ends in a schema error — for every depth, fuel, fault oracle, width and page
    size. -/
theorem C11_forward_parse (s : List UInt8) (hacc : (parse s).errors = []) (E : Env)
    (hcfg : E.cfg = (parse s).namespaces) (hpl : PlainTraversals E.cfg) (hconf : conforms E.cfg E.T = true)
    (q : Tuple) (hq : HasRelation E.cfg q.ns q.rel) (g : Int) (fuel : Nat) (r : Int) :
    (check E g fuel q r).1.err ≠ some .schema :=
  C11_forward_typed E (by rw [hcfg]; exact C11_parse_typeOk s hacc) hpl hconf q
    (astRelationFor_ne_bad_of_isSome ((findRelationT_isSome_iff _ _ _).mpr hq)) g fuel r

namespace C11tcex

/-- ```
    class User implements Namespace {}
    class Folder implements Namespace {
      related: { viewers: User[] }
      permits = { view: (ctx) => this.related.viewers.includes(ctx.subject) }
    }
    class Doc implements Namespace {
      related: { parents: Folder[], viewers: User[] }
      permits = { view: (ctx) => this.related.viewers.includes(ctx.subject) ||
                                 this.related.parents.traverse((p) => p.permits.view(ctx)) }
    }
    ``` -/
def cfg : Cfg := [
  ⟨"User", []⟩,
  ⟨"Folder", [⟨"viewers", [⟨"User", ""⟩], none⟩,
              ⟨"view", [], some ⟨.or, [.computed "viewers"]⟩⟩]⟩,
  ⟨"Doc", [⟨"parents", [⟨"Folder", ""⟩], none⟩,
           ⟨"viewers", [⟨"User", ""⟩], none⟩,
           ⟨"view", [], some ⟨.or, [.computed "viewers", .ttu "parents" "view"]⟩⟩]⟩]

def doc : List UInt8 :=
  b!"class User implements Namespace {}\nclass Folder implements Namespace {\n  related: { viewers: User[] }\n  permits = { view: (ctx) => this.related.viewers.includes(ctx.subject) }\n}\nclass Doc implements Namespace {\n  related: { parents: Folder[], viewers: User[] }\n  permits = { view: (ctx) => this.related.viewers.includes(ctx.subject) || this.related.parents.traverse((p) => p.permits.view(ctx)) }\n}\n"

/-- `Doc:1#parents@Folder:2`, `Folder:2#viewers@7` -/
def tuples : List Tuple := [⟨"Doc", 1, "parents", .set "Folder" 2 ""⟩, ⟨"Folder", 2, "viewers", .id 7⟩]

def env (c : Cfg) (T : List Tuple) : Env where
  cfg := c
  strict := false
  maxWidth := 100
  T := T
  fails := fun _ => false
  pageSize := 100

def q : Tuple := ⟨"Doc", 1, "view", .id 7⟩

/-- F-ttu-type on a document the type checker accepts (corpus/C11/ttu-subjectset.case):
    ```
    class Folder implements Namespace { related: { viewers: Folder[] } }
    class G2 implements Namespace { related: { members: Folder[] } }          // no `viewers`
    class Doc implements Namespace {
      related: { parents: SubjectSet<G2, "members">[] }
      permits = { view: (ctx) => this.related.parents.traverse((p) => p.related.viewers.includes(ctx.subject)) }
    }
    ``` -/
def badDoc : List UInt8 :=
  b!"class Folder implements Namespace { related: { viewers: Folder[] } }\nclass G2 implements Namespace { related: { members: Folder[] } }\nclass Doc implements Namespace {\n  related: { parents: SubjectSet<G2, \"members\">[] }\n  permits = { view: (ctx) => this.related.parents.traverse((p) => p.related.viewers.includes(ctx.subject)) }\n}\n"

def badCfg : Cfg := [
  ⟨"Folder", [⟨"viewers", [⟨"Folder", ""⟩], none⟩]⟩,
  ⟨"G2", [⟨"members", [⟨"Folder", ""⟩], none⟩]⟩,
  ⟨"Doc", [⟨"parents", [⟨"G2", "members"⟩], none⟩,
           ⟨"view", [], some ⟨.or, [.ttu "parents" "viewers"]⟩⟩]⟩]

/-- `Doc:1#parents@G2:5#members`, `G2:5#members@Folder:3` -/
def badTuples : List Tuple := [⟨"Doc", 1, "parents", .set "G2" 5 "members"⟩, ⟨"G2", 5, "members", .set "Folder" 3 ""⟩]

/-- A document with one bad reference of each kind (all syntactically fine):
    `Nope[]`, `SubjectSet<A, "zz">`, `this.related.missing.includes(…)`, and a traverse to `absent` over `r: A[]`. -/
def rejDoc : List UInt8 :=
  b!"class A implements Namespace {\n  related: { r: A[], s: Nope[], t: SubjectSet<A, \"zz\">[] }\n  permits = { p: (ctx) => this.related.missing.includes(ctx.subject) || this.related.r.traverse((x) => x.permits.absent(ctx)) }\n}\n"

end C11tcex

/-- Refutes `C11_forward_typed` without `PlainTraversals` (finding F-ttu-type), all other hypotheses holding:
    `parents` is traversed and has the type `SubjectSet<G2, "members">`; the type checker looks for `viewers` in
    the types of `G2.members` (`Folder`), the engine looks it up in `G2`. -/
theorem C11_plainTraversals_needed :
    TypeOk C11tcex.badCfg ∧ conforms C11tcex.badCfg C11tcex.badTuples = true ∧
    astRelationFor C11tcex.badCfg C11tcex.q.ns C11tcex.q.rel ≠ .bad ∧
    ¬ PlainTraversals C11tcex.badCfg ∧
    (check (C11tcex.env C11tcex.badCfg C11tcex.badTuples) 5 50 C11tcex.q 0).1.err = some .schema :=
  ⟨by decide, by decide, Lookup.ne_bad_of_isBad (by decide), by decide, by decide⟩

-- `C11_plainTraversals_needed` holds of what `Parse` returns for the source text, which it accepts
open C11tcex in
example : (parse badDoc).errors = [] ∧ typeOkB (parse badDoc).namespaces = true ∧
    conforms (parse badDoc).namespaces badTuples = true ∧ plainTraversalsB (parse badDoc).namespaces = false ∧
    (check (env (parse badDoc).namespaces badTuples) 5 50 q 0).1.err = some .schema := by
  simp only [parse, lex_eq_lexZ]
  decide +kernel

-- the hypotheses of `C11_forward_typed` hold of the Doc / Folder configuration, and the check answers
open C11tcex in
example : TypeOk (env cfg tuples).cfg ∧ PlainTraversals (env cfg tuples).cfg ∧
    conforms (env cfg tuples).cfg (env cfg tuples).T = true ∧ astRelationFor (env cfg tuples).cfg q.ns q.rel ≠ .bad ∧
    (check (env cfg tuples) 5 50 q 0).1 = Res.isM :=
  ⟨by decide, by decide, by decide, Lookup.ne_bad_of_isBad (by decide), by decide⟩

-- the hypotheses of `C11_forward_parse` hold of the source text `doc`, and the check answers
open C11tcex in
example : (parse doc).errors = [] ∧ plainTraversalsB (parse doc).namespaces = true ∧
    conforms (parse doc).namespaces tuples = true ∧ (findRelationT (parse doc).namespaces q.ns q.rel).isSome = true ∧
    (check (env (parse doc).namespaces tuples) 5 50 q 0).1 = Res.isM := by
  simp only [parse, lex_eq_lexZ]
  decide +kernel

-- the converse on `rejDoc`: four type errors, at `Nope` (bytes 55–59), `zz` (81–83, inside the quotes), `missing`
-- (129–136) and, for the traverse to `absent`, at the traversed relation `r` (175–176)
open C11tcex in
example : (synOf rejDoc).errors = [] ∧
    (parse rejDoc).errors = [⟨.nsNotDeclared, 55, 59⟩, ⟨.nsNoRelation, 81, 83⟩, ⟨.nsNoRelation, 129, 136⟩,
      ⟨.relNotDeclared, 175, 176⟩] := by
  simp only [parse, synOf, lex_eq_lexZ]
  decide +kernel

-- `C11_tc_accepts_iff`: `checksOk` on a two-namespace parse result, one check of each kind
example : checksOk [⟨"A", [⟨"r", [⟨"B", ""⟩], none⟩]⟩, ⟨"B", [⟨"s", [], none⟩]⟩]
    [.nsExists (tId b!"B"), .nsHasRelation (tId b!"A") (tId b!"r"), .curNsHasRelation "A" (tId b!"r"),
     .allTypesHaveRelation "A" (tId b!"r") "s"] :=
  (C11_tc_accepts_iff _ _).mp (by decide)

end Keto

