/-
  C01 (the "only if" direction) — completeness of the check engine against the positive semantics `Mem`:
  a `notMember` answer (without error) of a run in which no depth/width limit event fired means
  the query is not a member in the Zanzibar semantics. With soundness (`C01_sound_pos`): exactness.

  Hypotheses:
  * `Cfg.pos`: no `!` in the configuration; used for the direction `isMember → Mem` of
    `C01_exact_pos_general` only — a refuted query is not in `Mem` whatever the configuration;
  * `E.strict = true → conforms E.cfg E.T`: in strict mode the engine skips the direct lookup of
    relations that have a rewrite, the expansion of relations without subject-set types and the
    shortcut candidates with a rewrite; that is complete only for stores that conform to the declared
    types (`C01_complete_strict_counterexample` shows the hypothesis is needed);
  * `limitHits = 0`: no depth or width limit event anywhere in the run (also in branches that are
    evaluated eagerly and whose result is ignored) — needed, see the last example.
  Not needed: the absence of storage faults (a fault always surfaces as an error result, never as
  `notMember` without error) and the fuel bound (running out of fuel is an error result too). The
  statements `C01_complete_pos` / `C01_exact_pos` carry them unused (`_hf`, `_hfuel`).

  Lemmas: corollaries of `check_exact` (Keto/Proofs/EngineExactRewrite.lean), since `Mem` implies `Tr`
  (`tr_of_mem`), `Tr` implies `Mem` without `!` (`mem_of_trN`), and `Tr` and `Fa` exclude each other
  (`trN_faN_exclusive`).  `Mem` as height-indexed derivations (`mem_iff_memN`), a
  characterisation that belongs to this property although no theorem below needs it, is in
  Keto/Proofs/AvoidingDerivations.lean (imported for that reason).
-/
import Keto.Model.Engine
import Keto.Spec.Membership
import Keto.Spec.Positive
import Keto.Spec.Fuel
import Keto.Proofs.EngineSound
import Keto.Proofs.AvoidingDerivations
import Keto.Proofs.StratifiedLemmas
import Keto.Proofs.EngineExactRewrite

namespace Keto

/-- Completeness, general form: any non-decisive result (`notMember`, or `unknown` without error — the
    latter cannot occur without a limit event).  `hc` is not used (`check_refutes`). -/
theorem C01_complete_pos_general (E : Env) (hc : Cfg.pos E.cfg)
    (hs : E.strict = true → conforms E.cfg E.T = true) (g : Int) (fuel : Nat) (q : Tuple) (r : Int) :
    (check E g fuel q r).1.decisive = false → (check E g fuel q r).2.limitHits = 0 → ¬ Mem E.cfg E.T q :=
  check_refutes E hs g fuel q r

/-- Exactness, general form. -/
theorem C01_exact_pos_general (E : Env) (hc : Cfg.pos E.cfg)
    (hs : E.strict = true → conforms E.cfg E.T = true) (g : Int) (fuel : Nat) (q : Tuple) (r : Int) :
    (check E g fuel q r).1.err = none → (check E g fuel q r).2.limitHits = 0 →
      ((check E g fuel q r).1.memb = .isMember ↔ Mem E.cfg E.T q) := by
  intro herr hlim
  have h := check_exact E hs g fuel q r hlim
  refine ⟨fun hm => ?_, fun hmem => Classical.byContradiction fun hne => ?_⟩
  · obtain ⟨k, hk⟩ := h.1 hm
    exact (mem_of_trN hc _).1 _ hk
  · exact C01_complete_pos_general E hc hs g fuel q r (Res.decisive_eq_false.2 ⟨herr, hne⟩) hlim hmem

/-- Completeness, non-strict mode.  Instance of `check_refutes`; `hc`, `_hf` and `_hfuel` are not
    used. -/
theorem C01_complete_pos (E : Env) (hc : Cfg.pos E.cfg) (hs : E.strict = false) (_hf : ∀ k, E.fails k = false)
    (g : Int) (fuel : Nat) (q : Tuple) (r : Int) (_hfuel : fuel ≥ checkFuel E.cfg (effDepth r g)) :
    let res := check E g fuel q r
    res.1 = Res.nm → res.2.limitHits = 0 → ¬ Mem E.cfg E.T q :=
  fun hnm hlim => check_refutes E (fun h => nomatch hs.symm.trans h) g fuel q r (congrArg Res.decisive hnm) hlim

/-- Exactness, non-strict mode.  Instance of `C01_exact_pos_general`; `_hf` and `_hfuel` are not used. -/
theorem C01_exact_pos (E : Env) (hc : Cfg.pos E.cfg) (hs : E.strict = false) (_hf : ∀ k, E.fails k = false)
    (g : Int) (fuel : Nat) (q : Tuple) (r : Int) (_hfuel : fuel ≥ checkFuel E.cfg (effDepth r g)) :
    let res := check E g fuel q r
    res.1.err = none → res.2.limitHits = 0 → (res.1.memb = .isMember ↔ Mem E.cfg E.T q) :=
  C01_exact_pos_general E hc (fun h => nomatch hs.symm.trans h) g fuel q r

/-- Conforming store, either mode (of interest in strict mode); `hc` is not used. -/
theorem C01_complete_pos_strict (E : Env) (hc : Cfg.pos E.cfg) (hconf : conforms E.cfg E.T = true)
    (g : Int) (fuel : Nat) (q : Tuple) (r : Int) :
    let res := check E g fuel q r
    res.1 = Res.nm → res.2.limitHits = 0 → ¬ Mem E.cfg E.T q :=
  fun hnm hlim => check_refutes E (fun _ => hconf) g fuel q r (congrArg Res.decisive hnm) hlim

/-- Configurations without any rewrite (plain subject-set expansion: the depth-first search with the
    visited set).  Instance of `check_refutes`; `hnr` is not used. -/
theorem C01_complete_norewrite (E : Env) (hnr : ∀ ns rel R, astRelationFor E.cfg ns rel = .rel R → R.rewrite = none)
    (hs : E.strict = false) (g : Int) (fuel : Nat) (q : Tuple) (r : Int) :
    let res := check E g fuel q r
    res.1 = Res.nm → res.2.limitHits = 0 → ¬ Mem E.cfg E.T q :=
  fun hnm hlim => check_refutes E (fun h => nomatch hs.symm.trans h) g fuel q r (congrArg Res.decisive hnm) hlim

namespace C01cex

/-- Groups that contain each other (`A ∋ B#member`, `B ∋ A#member`, `B ∋ C#member`,
    `C ∋ B#member`), user 7 in C; `doc.view = viewers || (editors && owners)`. -/
def cfg : Cfg := [
  ⟨"group", [⟨"member", [⟨"user", ""⟩, ⟨"group", "member"⟩], none⟩]⟩,
  ⟨"doc", [⟨"viewers", [⟨"group", "member"⟩], none⟩,
           ⟨"editors", [⟨"group", "member"⟩], none⟩,
           ⟨"owners", [⟨"group", "member"⟩], none⟩,
           ⟨"view", [], some ⟨.or, [.computed "viewers", .rewrite .and [.computed "editors", .computed "owners"]]⟩⟩]⟩]

def env : Env where
  cfg := cfg
  strict := false
  maxWidth := 100
  T := [⟨"group", 1, "member", .set "group" 2 "member"⟩,
        ⟨"group", 2, "member", .set "group" 1 "member"⟩,
        ⟨"group", 2, "member", .set "group" 3 "member"⟩,
        ⟨"group", 3, "member", .set "group" 2 "member"⟩,
        ⟨"group", 3, "member", .id 7⟩,
        ⟨"doc", 1, "viewers", .set "group" 1 "member"⟩,
        ⟨"doc", 2, "editors", .set "group" 1 "member"⟩,
        ⟨"doc", 2, "owners", .set "group" 4 "member"⟩,
        ⟨"group", 4, "member", .set "group" 4 "member"⟩]
  fails := fun _ => false
  pageSize := 100

/-- the same in strict mode (the store conforms to the declared types) -/
def envStrict : Env := { env with strict := true }

/-- strict mode, a tuple stored directly on a relation that has a rewrite (non-conforming) -/
def envBad : Env := { env with strict := true, T := ⟨"doc", 1, "view", .id 5⟩ :: env.T }

end C01cex

/-- Answers of the engine model on `C01cex` that several examples (also of C01ref, C01neg) rest on. -/
theorem C01cex.check_g1u9 : (check C01cex.env 10 200 ⟨"group", 1, "member", .id 9⟩ 0).1 = Res.nm ∧
    (check C01cex.env 10 200 ⟨"group", 1, "member", .id 9⟩ 0).2.limitHits = 0 := by decide

theorem C01cex.check_d2u7 : (check C01cex.env 10 200 ⟨"doc", 2, "view", .id 7⟩ 0).1 = Res.nm ∧
    (check C01cex.env 10 200 ⟨"doc", 2, "view", .id 7⟩ 0).2.limitHits = 0 := by decide

theorem C01cex.check_d1u7 : (check C01cex.env 10 200 ⟨"doc", 1, "view", .id 7⟩ 0).1 = Res.isM ∧
    (check C01cex.env 10 200 ⟨"doc", 1, "view", .id 7⟩ 0).2.limitHits = 0 := by decide

theorem C01cex.check_strict_d2u7 : (check C01cex.envStrict 10 200 ⟨"doc", 2, "view", .id 7⟩ 0).1 = Res.nm ∧
    (check C01cex.envStrict 10 200 ⟨"doc", 2, "view", .id 7⟩ 0).2.limitHits = 0 := by decide

/-- … and answers of the reference evaluator. -/
theorem C01cex.ref_d1u7 : refEval C01cex.cfg C01cex.env.T 20 [] 0 (.node ⟨"doc", 1, "view", .id 7⟩) = .t := by
  decide

theorem C01cex.ref_g1u9 : refEval C01cex.cfg C01cex.env.T 20 [] 0 (.node ⟨"group", 1, "member", .id 9⟩) = .f := by
  decide

theorem C01cex.ref_d2u7 : refEval C01cex.cfg C01cex.env.T 20 [] 0 (.node ⟨"doc", 2, "view", .id 7⟩) = .f := by
  decide

-- `C01_complete_pos`: hypotheses and premise are met on a cyclic store (A ∋ B ∋ A), for a user in no
-- group …
example : Cfg.pos C01cex.env.cfg ∧
    (check C01cex.env 10 200 ⟨"group", 1, "member", .id 9⟩ 0).1 = Res.nm ∧
    (check C01cex.env 10 200 ⟨"group", 1, "member", .id 9⟩ 0).2.limitHits = 0 ∧
    200 ≥ checkFuel C01cex.env.cfg (effDepth 0 10) :=
  ⟨Cfg.pos_of_posB (by decide), C01cex.check_g1u9.1, C01cex.check_g1u9.2, by decide⟩

-- … and through a rewrite with `or`, `and` and the union shortcut.
example : (check C01cex.env 10 200 ⟨"doc", 2, "view", .id 7⟩ 0).1 = Res.nm ∧
    (check C01cex.env 10 200 ⟨"doc", 2, "view", .id 7⟩ 0).2.limitHits = 0 :=
  C01cex.check_d2u7

-- `C01_complete_pos` applied: the conclusion is derived …
example : ¬ Mem C01cex.env.cfg C01cex.env.T ⟨"group", 1, "member", .id 9⟩ :=
  C01_complete_pos C01cex.env (Cfg.pos_of_posB (by decide)) rfl (fun _ => rfl) 10 200 _ 0 (by decide)
    C01cex.check_g1u9.1 C01cex.check_g1u9.2

-- … and for the query through the rewrite:
example : ¬ Mem C01cex.env.cfg C01cex.env.T ⟨"doc", 2, "view", .id 7⟩ :=
  C01_complete_pos C01cex.env (Cfg.pos_of_posB (by decide)) rfl (fun _ => rfl) 10 200 _ 0 (by decide)
    C01cex.check_d2u7.1 C01cex.check_d2u7.2

-- `C01_complete_pos_strict`: hypotheses and premise are met …
example : Cfg.pos C01cex.envStrict.cfg ∧ conforms C01cex.envStrict.cfg C01cex.envStrict.T = true ∧
    (check C01cex.envStrict 10 200 ⟨"doc", 2, "view", .id 7⟩ 0).1 = Res.nm ∧
    (check C01cex.envStrict 10 200 ⟨"doc", 2, "view", .id 7⟩ 0).2.limitHits = 0 :=
  ⟨Cfg.pos_of_posB (by decide), by decide, C01cex.check_strict_d2u7.1, C01cex.check_strict_d2u7.2⟩

-- … and the hypothesis `conforms` is needed in strict mode: the direct lookup of a relation with a
-- rewrite is skipped, so a tuple stored on it is not seen.
theorem C01_complete_strict_counterexample :
    Cfg.pos C01cex.envBad.cfg ∧
    (check C01cex.envBad 10 200 ⟨"doc", 1, "view", .id 5⟩ 0).1 = Res.nm ∧
    (check C01cex.envBad 10 200 ⟨"doc", 1, "view", .id 5⟩ 0).2.limitHits = 0 ∧
    Mem C01cex.envBad.cfg C01cex.envBad.T ⟨"doc", 1, "view", .id 5⟩ :=
  ⟨Cfg.pos_of_posB (by decide), by decide, by decide, Mem.direct _ (by decide)⟩

-- the engine does find the member behind the cycle (user 7 views doc 1: A → B → (A skipped) → C ∋ 7):
example : (check C01cex.env 10 200 ⟨"doc", 1, "view", .id 7⟩ 0).1 = Res.isM := C01cex.check_d1u7.1

-- the hypothesis `limitHits = 0` is needed: with depth 2 the same query is answered `notMember`.
example : (check C01cex.env 2 200 ⟨"doc", 1, "view", .id 7⟩ 0).1 = Res.nm ∧
    (check C01cex.env 2 200 ⟨"doc", 1, "view", .id 7⟩ 0).2.limitHits ≠ 0 :=
  ⟨by decide, by decide⟩

end Keto
