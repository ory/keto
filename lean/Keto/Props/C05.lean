/-
  C05 — multi-relationship writes are atomic and isolated.

  Model: a write request is a list of SQL statements derived from its arguments and the chunk sizes
  (`mapStmts`, `writeStmts`, `deleteStmts`), run by `transaction` on a working copy that is committed at
  the end and dropped on the first failing statement (the database's contract, trusted).  The fault oracle
  `fail k stmt workingCopy` is arbitrary: it covers "the k-th statement fails" for every k as well as
  data-dependent faults (the sqlite triggers of the harness).
  Lemmas: Keto/Proofs/StoreTable.lean (the table), Keto/Proofs/StoreLemmas.lean (requests).
  Not proved: isolation is the database's; what is proved is its premise, one transaction per write
  (`C05_single_tx`, `C05_handlers_one_write`).
-/
import Keto.Model.Store
import Keto.Proofs.StoreLemmas
import Keto.Generated.Facts

namespace Keto.Store

def applyTransact (nid : Nat) (ins : List (Tuple × Nat)) (del : List Tuple) (db : DB) : DB :=
  { db with rows := deleteStmt nid del (insertRows (mkRows nid ins) db.rows) }

/-- All or nothing, `TransactRelationTuples` (multi-tuple create: `del = []`, delete: `ins = []`): for all
    lists, all chunk sizes ≥ 1 (so a failure in the second chunk of a 3001-tuple insert is covered without
    enumerating sizes) and every fault oracle, the outcome is (error, the database before) or (success,
    `applyTransact`). -/
theorem C05_all_or_nothing (cI cD : Nat) (hI : 0 < cI) (hD : 0 < cD) (fail : Oracle) (nid : Nat)
    (ins : List (Tuple × Nat)) (del : List Tuple) (db : DB) :
    transaction fail (writeStmts cI nid ins ++ deleteStmts cD nid del) db = (false, db) ∨
    transaction fail (writeStmts cI nid ins ++ deleteStmts cD nid del) db = (true, applyTransact nid ins del db) := by
  rcases transaction_cases fail (writeStmts cI nid ins ++ deleteStmts cD nid del) db with h | h
  · exact Or.inl h
  · right
    rw [h, execAll_transact cI cD hI hD]
    rfl

/-- It is an error exactly when some statement fails on the working copy it meets. -/
theorem C05_error_iff (fail : Oracle) (sts : List Stmt) (db : DB) :
    (transaction fail sts db).1 = false ↔
      ∃ i, ∃ h : i < sts.length, fail i sts[i] (execAll (sts.take i) db) = true := by
  have h := runStmts_none_iff fail sts 0 db
  simp only [Nat.zero_add] at h
  rw [← h, transaction]
  cases runStmts fail 0 sts db <;> simp

/-- Instance of `C05_error_iff`: the oracle that fails exactly the `k`-th statement. -/
theorem C05_kth_statement_fails (sts : List Stmt) (db : DB) (k : Nat) (hk : k < sts.length) :
    transaction (fun i _ _ => i == k) sts db = (false, db) := by
  have h := (C05_error_iff (fun i _ _ => i == k) sts db).mpr ⟨k, hk, by simp⟩
  rcases transaction_cases (fun i _ _ => i == k) sts db with h' | h'
  · exact h'
  · rw [h'] at h; cases h

/-- All or nothing for every request (REST, gRPC, Persister; any arguments, chunking and fault oracle), on both
    tables: answered `ok`, status and database are the fault-free ones; otherwise the database — relationships
    and name mappings — is what it was before. -/
theorem C05_requests_all_or_nothing (ck : Chunking) (cfg : Names) (fail : Oracle) (nid : Nat) (op : Op) (db : DB) :
    ((step ck cfg fail nid op db).1.status = .ok →
        (step ck cfg fail nid op db).1.status = (step ck cfg noFail nid op db).1.status ∧
        (step ck cfg fail nid op db).2 = (step ck cfg noFail nid op db).2) ∧
    ((step ck cfg fail nid op db).1.status ≠ .ok → (step ck cfg fail nid op db).2 = db) := by
  by_cases hr : op.isRead = true
  · rw [step_read ck cfg fail nid op db hr, step_read ck cfg noFail nid op db hr]
    refine ⟨fun h => ⟨?_, rfl⟩, fun _ => rfl⟩
    -- a read does not consult the oracle at all
    cases op <;> simp only [Op.isRead, Bool.false_eq_true] at hr <;> rfl
  · have hw : op.isRead = false := by simpa using hr
    rw [step_write ck cfg fail nid op db hw, step_write ck cfg noFail nid op db hw]
    have h := planned_all_or_nothing ck fail nid db (op.plan cfg)
    exact ⟨fun hok => Prod.mk.inj (h.1 hok), h.2⟩

theorem C05_apply_chunk_independent (ck ck' : Chunking) (hck : ck.pos) (hck' : ck'.pos) (cfg : Names) (nid : Nat)
    (ins : List (ATuple × Nat)) (del : List ATuple) (db : DB) :
    (writeTx ck cfg noFail nid ins del db).2.rows = (writeTx ck' cfg noFail nid ins del db).2.rows := by
  rw [writeTx_eq, writeTx_eq, planned_noFail_rows ck hck, planned_noFail_rows ck' hck']

def expectedTxCalls : List (String × String × String) := [
  ("internal/persistence/sql/relationtuples.go", "Persister.WriteRelationTuples", "call:Transaction"),
  ("internal/persistence/sql/relationtuples.go", "Persister.WriteRelationTuples", "call:Exec"),
  ("internal/persistence/sql/relationtuples.go", "Persister.DeleteRelationTuples", "call:Transaction"),
  ("internal/persistence/sql/relationtuples.go", "Persister.DeleteRelationTuples", "call:Exec"),
  ("internal/persistence/sql/relationtuples.go", "Persister.DeleteAllRelationTuples", "call:Transaction"),
  ("internal/persistence/sql/relationtuples.go", "Persister.DeleteAllRelationTuples", "call:Delete"),
  ("internal/persistence/sql/relationtuples.go", "Persister.TransactRelationTuples", "call:Transaction"),
  ("internal/persistence/sql/uuid_mapping.go", "Persister.MapStringsToUUIDs", "call:Transaction"),
  ("internal/persistence/sql/uuid_mapping.go", "Persister.MapStringsToUUIDs", "call:Exec"),
  ("internal/persistence/sql/persister.go", "Persister.Transaction", "call:Transaction")]

def writers : List (String × String) :=
  (Facts.sqlStrings.filter fun e => e.2.2 == "call:Exec" || e.2.2 == "call:Delete").map fun e => (e.1, e.2.1)

/-- The premise under which the database's isolation gives "a concurrent reader sees before or after".  The
    regenerated SQL fact table records, per function of `persistence/sql`, which selectors its body calls: every
    function with a writing call (`Exec`, `Delete`; exactly 4) also calls `Transaction`, and so do
    `TransactRelationTuples` and `Persister.Transaction`.  It records neither nesting nor the callee: that the
    write is inside the closure and that `popx.Transaction` reuses the transaction of the context is read off the
    source (trusted). -/
theorem C05_single_tx :
    (∀ e ∈ expectedTxCalls, e ∈ Facts.sqlStrings) ∧
    (∀ w ∈ writers, (w.1, w.2, "call:Transaction") ∈ Facts.sqlStrings) ∧
    writers.length = 4 := by decide +kernel

/-- Each write handler calls exactly one writing manager method, by name (the regenerated handler table records
    every distinct method name once per function).  That mapping and write run inside one
    `Transactor().Transaction` is read off the source (trusted). -/
theorem C05_handlers_one_write :
    Facts.managerWrite = [
      ("internal/relationtuple/transact_server.go", "handler.TransactRelationTuples", "TransactRelationTuples"),
      ("internal/relationtuple/transact_server.go", "handler.DeleteRelationTuples", "DeleteAllRelationTuples"),
      ("internal/relationtuple/transact_server.go", "handler.createRelation", "WriteRelationTuples"),
      ("internal/relationtuple/transact_server.go", "handler.deleteRelations", "DeleteAllRelationTuples"),
      ("internal/relationtuple/transact_server.go", "handler.patchRelationTuples", "TransactRelationTuples")] :=
  rfl

namespace C05ex

def t (o : Nat) : Tuple := ⟨"doc", o, "viewer", .id 1⟩
def db : DB := { rows := [⟨10, 0, t 1⟩, ⟨20, 0, t 2⟩], maps := [] }
def ins : List (Tuple × Nat) := [(t 3, 30), (t 4, 40), (t 5, 50)]
def del : List Tuple := [t 1, t 2, t 9]

-- `C05_all_or_nothing` with two INSERT and two DELETE statements …
example : (writeStmts 2 0 ins ++ deleteStmts 2 0 del).length = 4 := by decide
-- … its second disjunct …
example : (transaction noFail (writeStmts 2 0 ins ++ deleteStmts 2 0 del) db).2.rows.map (·.shard) = [30, 40, 50] := by decide
-- … `C05_kth_statement_fails` for the last statement: the database is what it was …
example : transaction (fun k _ _ => k == 3) (writeStmts 2 0 ins ++ deleteStmts 2 0 del) db = (false, db) := by decide
-- … not the working copy after three statements, which differs from it.
example : ((execAll ((writeStmts 2 0 ins ++ deleteStmts 2 0 del).take 3) db).rows.map (·.shard)) = [30, 40, 50] := by decide
-- `C05_requests_all_or_nothing`, second conjunct: a REST create whose mapping insert fails.
example : (step {} ["doc"] (fun k _ _ => k == 0) 0 (.restCreate { ns := "doc", obj := 1, rel := "r", sid := some 2 } 5) db)
    = ({ status := .internal }, db) := by decide

end C05ex

end Keto.Store
