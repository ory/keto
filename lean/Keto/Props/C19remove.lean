/-
  C19 — namespace configuration reloads are keep-last-good and never partial: histories with removes and with
  reloads of the main configuration (imported by Keto/Props/C19.lean: its theorems about remove-free histories
  are corollaries of the ones here).

  Model: Keto/Model/Watcher.lean. Lemmas: Keto/Proofs/WatcherLemmas.lean.
  Removals (namespace_watcher.go, `handleRemove` deletes the file's entry): the specification for ALL histories
  is `lastValidSinceRemove`, a left fold over the history. For the OPL watcher `C19_opl_global`
  (Keto/Props/C19.lean) covers removes already.
  Configuration reloads (`Config.watcher`, provider.go): after a hot reload of the main configuration the
  current namespace manager is asked `ShouldReload`; with an unchanged target the watcher is kept
  (`CEv.reload true`), with a changed one it is dropped and another one starts from nothing
  (`CEv.reload false`). That `ShouldReload` answers `false` for an unchanged target is read off the code
  (known_findings.json, `fixed`, C19: every reload of the configuration file rebuilt the OPL namespace watcher).
-/
import Keto.Model.Watcher
import Keto.Proofs.WatcherLemmas

namespace Keto
open W

/-! ### removals: legacy watcher -/

/-- Keep-last-good with removals, per file, for EVERY history: the namespaces visible for file `p` are those of
    the last valid version written to `p` since `p` was last removed (nothing if there is none). -/
theorem C19_legacy_with_removes (parse : Parse) (es : List Ev) (p : String) :
    lvisible (lrun parse es) p = lastValidSinceRemove parse p es :=
  lvisible_foldl_since parse [] es p List.nodup_nil

/-- The instance of `C19_legacy_with_removes` at a prefix `pre` of the history (`_hpre` is not used). -/
theorem C19_legacy_with_removes_every_prefix (parse : Parse) (es : List Ev) (p : String)
    (pre : List Ev) (_hpre : pre <+: es) :
    lvisible (lrun parse pre) p = lastValidSinceRemove parse p pre :=
  C19_legacy_with_removes parse pre p

/-- So `C19_legacy_with_removes` extends `C19_legacy`. -/
theorem C19_legacy_with_removes_agrees (parse : Parse) (es : List Ev) (p : String)
    (h : noRemove es = true) :
    lastValidSinceRemove parse p es = lastValid parse p es := by
  rw [lastValidSinceRemove, since_foldl_noRemove parse p none es h, Option.or_none]

theorem C19_legacy_removed_gone (parse : Parse) (es : List Ev) (p : String) :
    lvisible (lrun parse (es ++ [.remove p])) p = none := by
  simp [C19_legacy_with_removes, lastValidSinceRemove_snoc, sinceStep]

/-- A file that is removed and re-created with valid content, even byte-identical to its last version, takes
    effect again. -/
theorem C19_legacy_comes_back (parse : Parse) (es : List Ev) (p : String) (c : Content)
    (nss : List String) (h : parse c = some nss) :
    lvisible (lrun parse (es ++ [.remove p, .change p c])) p = some nss := by
  rw [C19_legacy_with_removes]
  simp [lastValidSinceRemove, List.foldl_append, sinceStep, h]

/-- The same for the OPL watcher with a single watched file. -/
theorem C19_opl_comes_back (parse : Parse) (es : List Ev) (p : String) (c : Content)
    (nss : List String) (h : parse c = some nss)
    (hsingle : ∀ e ∈ es, (∃ c', e = .change p c') ∨ e = .remove p) :
    (orun parse (es ++ [.remove p, .change p c])).visible = [(p, nss)] := by
  rw [ovisible_orun_single parse p _ (by simpa [or_imp, forall_and] using hsingle)]
  simp [lastValidSinceRemove, List.foldl_append, sinceStep, h, single]

/-- Removing one file never changes what is visible for another. -/
theorem C19_legacy_remove_other (parse : Parse) (es : List Ev) (p q : String)
    (hne : (q == p) = false) :
    lvisible (lrun parse (es ++ [.remove q])) p = lvisible (lrun parse es) p := by
  simp [C19_legacy_with_removes, lastValidSinceRemove_snoc, sinceStep, hne]

/-! ### configuration reloads -/

/-- Unrelated configuration reloads are invisible to the legacy watcher: the state is what the file events alone
    produce. -/
theorem C19_unrelated_reload_invisible_legacy (parse : Parse) (es : List CEv)
    (h : unrelatedOnly es = true) :
    lrunC parse es = lrun parse (fileEvents es) :=
  foldlC_unrelated (step := lstep parse) (stepC := lstepC parse) (fun _ _ => rfl) (fun _ => rfl) [] es h

/-- … and to the OPL watcher. -/
theorem C19_unrelated_reload_invisible_opl (parse : Parse) (es : List CEv)
    (h : unrelatedOnly es = true) :
    orunC parse es = orun parse (fileEvents es) :=
  foldlC_unrelated (step := ostep parse) (stepC := ostepC parse) (fun _ _ => rfl) (fun _ => rfl) {} es h

/-- The parser of the witnesses: content 1 is valid and declares namespace "A", nothing else parses. -/
def C19r_parse : Parse := fun c => if c == 1 then some ["A"] else none

/-- Refutes keep-last-good (`C19_legacy`, `C19_opl_single` on the file events) for a watcher that is REBUILT on an
    unrelated reload, `.reload false` in place of `.reload true`: on the history valid(A) · invalid · reload the
    rebuilt watcher serves nothing although a valid version was loaded; the kept watcher serves "A". For both
    watchers. -/
theorem C19_rebuild_loses_last_good_counterexample :
    lvisible (lrunC C19r_parse [.file (.change "a" 1), .file (.change "a" 0), .reload true]) "a"
      = some ["A"] ∧
    lvisible (lrunC C19r_parse [.file (.change "a" 1), .file (.change "a" 0), .reload false]) "a"
      = none ∧
    lall (lrunC C19r_parse [.file (.change "a" 1), .file (.change "a" 0), .reload true]) = ["A"] ∧
    lall (lrunC C19r_parse [.file (.change "a" 1), .file (.change "a" 0), .reload false]) = [] ∧
    oall (orunC C19r_parse [.file (.change "a" 1), .file (.change "a" 0), .reload true]) = ["A"] ∧
    oall (orunC C19r_parse [.file (.change "a" 1), .file (.change "a" 0), .reload false]) = [] ∧
    -- the rebuilt watcher then loads the target again and finds only the invalid version
    oall (orunC C19r_parse [.file (.change "a" 1), .file (.change "a" 0), .reload false,
      .file (.change "a" 0)]) = [] ∧
    lastValid C19r_parse "a" (fileEvents [.file (.change "a" 1), .file (.change "a" 0), .reload false])
      = some ["A"] := by
  decide

/-! ### non-vacuity -/

-- `C19_legacy_with_removes`, `C19_legacy_removed_gone`, `C19_legacy_comes_back`, `C19_legacy_remove_other`,
-- `C19_opl_comes_back`: one file, history valid · invalid · remove · invalid · valid (byte-identical to the first
-- version) · remove of ANOTHER file
example :
    lvisible (lrun C19r_parse [.change "a" 1, .change "a" 0]) "a" = some ["A"] ∧
    lvisible (lrun C19r_parse [.change "a" 1, .change "a" 0, .remove "a"]) "a" = none ∧
    lvisible (lrun C19r_parse [.change "a" 1, .change "a" 0, .remove "a", .change "a" 0]) "a" = none ∧
    lvisible (lrun C19r_parse [.change "a" 1, .change "a" 0, .remove "a", .change "a" 0,
      .change "a" 1]) "a" = some ["A"] ∧
    lvisible (lrun C19r_parse [.change "a" 1, .change "a" 0, .remove "a", .change "a" 0,
      .change "a" 1, .remove "b"]) "a" = some ["A"] ∧
    lastValidSinceRemove C19r_parse "a" [.change "a" 1, .change "a" 0, .remove "a"] = none ∧
    lastValidSinceRemove C19r_parse "a" [.change "a" 1, .change "a" 0, .remove "a", .change "a" 0]
      = none ∧
    lastValidSinceRemove C19r_parse "a" [.change "a" 1, .change "a" 0, .remove "a", .change "a" 0,
      .change "a" 1] = some ["A"] ∧
    -- `lastValid` (which ignores removes) differs exactly here
    lastValid C19r_parse "a" [.change "a" 1, .change "a" 0, .remove "a"] = some ["A"] ∧
    noRemove [.change "a" 1, .change "a" 0, .remove "a"] = false ∧
    (orun C19r_parse [.change "a" 1, .remove "a"]).visible = [] ∧
    (orun C19r_parse [.change "a" 1, .remove "a", .change "a" 1]).visible = [("a", ["A"])] := by
  decide

-- `C19_unrelated_reload_invisible_legacy` / `_opl`, hypothesis and conclusion
example :
    unrelatedOnly [.file (.change "a" 1), .reload true, .file (.change "a" 0), .reload true] = true ∧
    fileEvents [.file (.change "a" 1), .reload true, .file (.change "a" 0), .reload true]
      = [.change "a" 1, .change "a" 0] ∧
    unrelatedOnly [.file (.change "a" 1), .reload false] = false ∧
    lall (lrunC C19r_parse [.file (.change "a" 1), .reload true, .file (.change "a" 0), .reload true])
      = ["A"] ∧
    oall (orunC C19r_parse [.file (.change "a" 1), .reload true, .file (.change "a" 0), .reload true])
      = ["A"] := by
  decide

end Keto
