/-
  C07 (expand part) — a storage fault during an expansion is never swallowed.

  Model: `Keto.expandF` / `Keto.buildTreeF` (Keto/Model/ExpandFault.lean); reference: the fault-free
  `Keto.buildTree` (Keto/Model/Expand.lean). Lemmas: Keto/Proofs/ExpandFaultLemmas.lean.
-/
import Keto.Model.ExpandFault
import Keto.Proofs.ExpandFaultLemmas

namespace Keto

/-- No fault among the storage calls of the fault-free expansion: the expansion under faults
    is the fault-free one (same tree, same visited set, same number of calls and cuts). -/
theorem C07_expand_fault_free (E : XEnv) (fails : Nat → Bool) (r : Int) (S : Subject)
    (h : ∀ i, i < (buildTree E r S).2.calls → fails i = false) :
    buildTreeF E fails r S = (.ok (buildTree E r S).1, (buildTree E r S).2) :=
  expandF_nofault E fails (expandFuel r E.g) r S {} (fun i _ hi => h i hi)

/-- An expansion under faults either fails or answers exactly the fault-free tree — never a
    tree built from the pages read so far. -/
theorem C07_expand_never_partial (E : XEnv) (fails : Nat → Bool) (r : Int) (S : Subject) :
    (buildTreeF E fails r S).1 = .err ∨ (buildTreeF E fails r S).1 = .ok (buildTree E r S).1 :=
  (expandF_sim E fails (expandFuel r E.g) r S {}).2.symm.imp (·.2) (congrArg Prod.fst ·.2)

/-- The expansion fails iff one of the storage calls the fault-free expansion issues fails. -/
theorem C07_expand_fault_iff (E : XEnv) (fails : Nat → Bool) (r : Int) (S : Subject) :
    (buildTreeF E fails r S).1 = .err ↔ ∃ i, i < (buildTree E r S).2.calls ∧ fails i = true :=
  (expandF_err_iff E fails (expandFuel r E.g) r S {}).trans
    ⟨fun ⟨i, _, h⟩ => ⟨i, h⟩, fun ⟨i, h⟩ => ⟨i, Nat.zero_le _, h⟩⟩

/-- Pointwise: failing exactly the call number `k` the expansion reaches makes it fail. -/
theorem C07_expand_single_fault (E : XEnv) (r : Int) (S : Subject) (k : Nat)
    (hk : k < (buildTree E r S).2.calls) : (buildTreeF E (fun i => i == k) r S).1 = .err :=
  (C07_expand_fault_iff E (fun i => i == k) r S).mpr ⟨k, hk, by simp⟩

/-- … and failing exactly one call the expansion does not reach changes nothing. -/
theorem C07_expand_single_fault_beyond (E : XEnv) (r : Int) (S : Subject) (k : Nat)
    (hk : (buildTree E r S).2.calls ≤ k) :
    buildTreeF E (fun i => i == k) r S = (.ok (buildTree E r S).1, (buildTree E r S).2) :=
  C07_expand_fault_free E (fun i => i == k) r S (fun i hi => by
    have : i ≠ k := by omega
    simpa using this)

/-- The driver's `ferr` column: every single failing call the expansion reaches makes it fail, in
    every prefix of the column (the driver prints `min calls 12` entries) … -/
theorem C07_expand_fault_column_le (E : XEnv) (r : Int) (S : Subject) (n : Nat)
    (hn : n ≤ (buildTree E r S).2.calls) : faultColumn E r S n = List.replicate n true := by
  refine List.eq_replicate_iff.mpr ⟨by simp [faultColumn], ?_⟩
  intro b hb
  simp only [faultColumn, List.mem_map, List.mem_range] at hb
  obtain ⟨k, hk, rfl⟩ := hb
  rw [C07_expand_single_fault E r S k (Nat.lt_of_lt_of_le hk hn)]
  rfl

/-- … and in the whole column. -/
theorem C07_expand_fault_column (E : XEnv) (r : Int) (S : Subject) :
    faultColumn E r S (buildTree E r S).2.calls = List.replicate (buildTree E r S).2.calls true :=
  C07_expand_fault_column_le E r S _ (Nat.le_refl _)

namespace C07ex

def S : Subject := .set "g" 0 "m"
def A : Subject := .set "g" 1 "m"

/-- `S→A, S→7, A→8`, page size 1: two pages under `S` (calls 0 and 2), one under `A` (call 1). -/
def env : XEnv := { T := [⟨"g", 0, "m", A⟩, ⟨"g", 0, "m", .id 7⟩, ⟨"g", 1, "m", .id 8⟩], g := 5, pageSize := 1 }

end C07ex

open C07ex in
-- `C07_expand_fault_iff` on the witness (three calls): call 1 (the listing of A, inside the first page of S) or
-- call 2 (the second page of S, after a complete child) fails the run; call 3 is never issued.
example :
    (buildTree env 3 S).1 = some (.union S [.union A [.leaf (.id 8)], .leaf (.id 7)]) ∧
    2 ≤ (buildTree env 3 S).2.calls ∧ (buildTree env 3 S).2.calls = 3 ∧
    (buildTreeF env (fun i => i == 1) 3 S).1.isErr = true ∧
    (buildTreeF env (fun i => i == 2) 3 S).1.isErr = true ∧
    (buildTreeF env (fun i => i == 3) 3 S).1.isErr = false ∧
    faultColumn env 3 S 4 = [true, true, true, false] :=
  ⟨rfl, by decide, by decide, by decide, by decide, by decide, by decide⟩

open C07ex in
-- `C07_expand_single_fault` applied to the witness: its hypothesis is satisfiable, its conclusion not trivial.
example : (buildTreeF env (fun i => i == 1) 3 S).1 = .err :=
  C07_expand_single_fault env 3 S 1 (by decide)

open C07ex in
-- `C07_expand_fault_free` with the oracle that never fires.
example : (buildTreeF env (fun _ => false) 3 S).1 = .ok (some (.union S [.union A [.leaf (.id 8)], .leaf (.id 7)])) :=
  congrArg Prod.fst (C07_expand_fault_free env (fun _ => false) 3 S (fun _ _ => rfl))

end Keto
