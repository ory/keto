/-
  C09 — expand returns a sound and complete picture of a subject set.

  Model: `Keto.expand` / `Keto.buildTree` (Keto/Model/Expand.lean). Spec: `Keto.Reach`, `Keto.reachWithin`
  (Keto/Spec/Reach.lean), `Keto.Mem` (Keto/Spec/Membership.lean). Lemmas: Keto/Proofs/ExpandLemmas.lean (the model),
  Keto/Proofs/ReachLemmas.lean (the spec).

  Completeness is proved only for runs that made no depth cut (`cuts = 0`). Completeness within the effective
  depth fails (finding F-expand-order): the depth-first traversal marks a subject set visited where it first meets
  it — possibly at the last level, where it is only a leaf — and skips it at a shallower position later; which
  position comes first depends on the storage order.
-/
import Keto.Model.Expand
import Keto.Spec.Reach
import Keto.Spec.Membership
import Keto.Proofs.FactsTie
import Keto.Proofs.ReachLemmas
import Keto.Proofs.ExpandLemmas

namespace Keto

/-- The two depth tests of `buildTreeRecursive` MEAN what `Keto.expand` encodes: the request clamp
    (`restDepth <= 0 || globalMaxDepth < restDepth`, i.e. `effDepth`) and the leaf test
    (`restDepth <= 1`); both are translated from the Go expressions on every run and compared as
    functions on `Int`; they are the only two tests of the depth in expand/engine.go. -/
theorem C09_depth_sites_tie :
    (∀ g r : Int, Facts.cond8 g r = decide (r ≤ 0 ∨ g < r)) ∧ (∀ d : Int, Facts.cond9 d = decide (d ≤ 1)) ∧
    (Facts.depthConds.filter (fun g => g.1 == "internal/expand/engine.go")).length = 2 :=
  ⟨fun g r => (FactsTie.clamp_sem g r).2, FactsTie.guard_le1_sem, by decide⟩

/-- Every parent → child edge of the tree is a stored tuple: the parent is a subject set
    `n:o#r` and `⟨n, o, r, child⟩ ∈ T`. -/
theorem C09_edges_sound (E : XEnv) (fuel : Nat) (rd : Int) (S : Subject) (st : XState) (tr : Tree)
    (h : (expand E fuel rd S st).1 = some tr) :
    tr.subject = S ∧
    ∀ p c, (p, c) ∈ tr.edges → ∃ n o r, p = .set n o r ∧ (⟨n, o, r, c⟩ : Tuple) ∈ E.T := by
  obtain ⟨hroot, hedges⟩ := expand_edges E fuel rd S st tr h
  exact ⟨hroot, fun p c => hedges (p, c)⟩

/-- No subject set is the root of two `union` nodes: the subject sets of the union nodes are
    pairwise different, all of them were marked visited by this run and none of them was
    visited before (so with the empty initial set of `BuildTree` none is skipped wrongly). -/
theorem C09_once (E : XEnv) (fuel : Nat) (rd : Int) (S : Subject) (st : XState) (tr : Tree)
    (h : (expand E fuel rd S st).1 = some tr) :
    (Tree.unionKeys tr).Nodup ∧
    ∀ k, k ∈ Tree.unionKeys tr → k ∈ (expand E fuel rd S st).2.visited ∧ k ∉ st.visited :=
  expand_once E fuel rd S st tr h

/-- The tree has at most `effDepth r g` levels (`g ≥ 1`: the configuration schema requires
    `limit.max_read_depth ≥ 1`). -/
theorem C09_depth (E : XEnv) (hg : 1 ≤ E.g) (fuel : Nat) (rd : Int) (S : Subject) (st : XState) (tr : Tree)
    (h : (expand E fuel rd S st).1 = some tr) : (tr.height : Int) ≤ effDepth rd E.g := by
  have h1 := expand_height E hg fuel rd S st tr h
  have h2 := effDepth_pos (r := rd) hg
  omega

/-- Termination on all data (cyclic or not). The model recurses structurally on its fuel;
    fuel `effDepth r g` (at least 1) is never exhausted; the number of storage calls of a
    request is at most (number of distinct subject sets occurring as a subject in `T` + 1)
    × (pages of one listing). -/
theorem C09_terminates (E : XEnv) (r : Int) (S : Subject) :
    (∀ (fuel : Nat) (st : XState), 1 ≤ fuel → effDepth r E.g ≤ (fuel : Int) → (expand E fuel r S st).2.oof = st.oof) ∧
    (buildTree E r S).2.oof = false ∧
    (buildTree E r S).2.calls ≤ ((setKeys E.T).eraseDups.length + 1) * (E.T.length / E.pageSize + 1) :=
  ⟨fun fuel st h1 hf => expand_oof E fuel r S st h1 hf,
    buildTree_oof E r S, buildTree_calls_le E r S⟩

/-- Every subject in the tree other than the root is reachable from the expanded subject set. -/
theorem C09_leaves_subset_reach (E : XEnv) (fuel : Nat) (rd : Int) (S : Subject) (st : XState) (tr : Tree)
    (h : (expand E fuel rd S st).1 = some tr) : ∀ x, x ∈ tr.descendants → Reach E.T S x := by
  obtain ⟨hroot, hedges⟩ := C09_edges_sound E fuel rd S st tr h
  exact hroot ▸ tr.reach_of_edges fun e => hedges e.1 e.2

/-
  theorem C09_complete_within_depth (E : XEnv) (hg : 1 ≤ E.g) (r : Int) (S : Subject) :
      ∀ x, x ∈ reachWithin E.T (effDepth r E.g).toNat S →
        ∃ tr, (buildTree E r S).1 = some tr ∧ x ∈ tr.descendants

  i.e. (`C09_reachWithin_spec`) every subject reachable from `S` along `j` tuples, `1 ≤ j < effDepth`, appears in
  the tree of `effDepth` levels. Fails: `C09_order_counterexample`.
-/
/-- Completeness when the depth is not binding: if the request made no depth cut
    (`cuts = 0`: no non-empty subject set was returned as a leaf because `restDepth <= 1`)
    then every subject reachable from the expanded subject set is in the tree; in
    particular a tree exists as soon as anything is reachable. -/
theorem C09_complete_unbound_partial (E : XEnv) (r : Int) (n : String) (o : Nat) (rel : String)
    (hcuts : (buildTree E r (.set n o rel)).2.cuts = 0) :
    ∀ x, Reach E.T (.set n o rel) x →
      ∃ tr, (buildTree E r (.set n o rel)).1 = some tr ∧ x ∈ tr.subjects := by
  intro x hx
  have := buildTree_complete E r n o rel hcuts x hx
  cases hres : (buildTree E r (.set n o rel)).1 with
  | none => rw [hres] at this; cases this
  | some tr => rw [hres] at this; exact ⟨tr, rfl, tr.subjects_eq ▸ List.mem_cons_of_mem _ this⟩

/-- With `cuts = 0` the subject ids below the root are exactly the reachable subject ids. -/
theorem C09_ids_eq_reach_partial (E : XEnv) (r : Int) (n : String) (o : Nat) (rel : String) (tr : Tree)
    (h : (buildTree E r (.set n o rel)).1 = some tr) (hcuts : (buildTree E r (.set n o rel)).2.cuts = 0) (u : Nat) :
    .id u ∈ tr.descendants ↔ Reach E.T (.set n o rel) (.id u) := by
  refine ⟨C09_leaves_subset_reach E _ r _ {} tr h (.id u), fun hr => ?_⟩
  have := buildTree_complete E r n o rel hcuts _ hr
  rwa [h] at this

/-- For a configuration without rewrites (legacy namespaces, or namespaces that only declare
    relations) the check semantics is reachability: `Mem` (what check answers when no limit
    binds, C01) holds for a subject id iff the id is reachable — hence, with `cuts = 0`,
    iff it is a leaf of the expansion. -/
theorem C09_leaves_eq_check (c : Cfg) (hc : Cfg.plain c) (E : XEnv) (r : Int) (n : String) (o : Nat) (rel : String)
    (tr : Tree) (h : (buildTree E r (.set n o rel)).1 = some tr)
    (hcuts : (buildTree E r (.set n o rel)).2.cuts = 0) (u : Nat) :
    Mem c E.T ⟨n, o, rel, .id u⟩ ↔ .id u ∈ tr.descendants := by
  rw [C09_ids_eq_reach_partial E r n o rel tr h hcuts u]
  exact ⟨mem_reach hc, reach_mem hc⟩

/-- … and in general (no condition on the run): membership is reachability. -/
theorem C09_mem_iff_reach (c : Cfg) (hc : Cfg.plain c) (T : List Tuple) (n : String) (o : Nat) (rel : String)
    (x : Subject) : Mem c T ⟨n, o, rel, x⟩ ↔ Reach T (.set n o rel) x :=
  ⟨fun hm => mem_reach hc hm, fun hr => reach_mem hc hr⟩

/-- Legacy namespaces (no relations) are rewrite-free. -/
theorem C09_legacy_plain (c : Cfg) (h : ∀ ns, ns ∈ c → ns.relations = []) : Cfg.plain c := by
  intro ns rel R hR
  obtain ⟨N, hN, _, hmem, _⟩ := astRelationFor_rel hR
  rw [h N hN] at hmem
  cases hmem

/-- The executable `reachWithin` of the driver and of the statements here is exactly
    "reachable along at least 1 and fewer than `d` tuples" (`mem_reachWithin` under the name of the property) … -/
theorem C09_reachWithin_spec (T : List Tuple) (S x : Subject) (d : Nat) :
    x ∈ reachWithin T d S ↔ ∃ j, 1 ≤ j ∧ j < d ∧ ReachIn T S j x :=
  mem_reachWithin

/-- … and `reachAll` is exactly `Reach` (`mem_reachAll` under the name of the property). -/
theorem C09_reachAll_spec (T : List Tuple) (S x : Subject) : x ∈ reachAll T S ↔ Reach T S x :=
  mem_reachAll

/-- The oracle's columns: with `cuts = 0` the model's `leaves` (subject ids below the root) are
    the `reach` column (subject ids in `reachAll`). -/
theorem C09_leaves_column_partial (E : XEnv) (r : Int) (n : String) (o : Nat) (rel : String) (tr : Tree)
    (h : (buildTree E r (.set n o rel)).1 = some tr) (hcuts : (buildTree E r (.set n o rel)).2.cuts = 0) (u : Nat) :
    u ∈ idsOf tr.descendants ↔ u ∈ idsOf (reachAll E.T (.set n o rel)) := by
  rw [mem_idsOf, mem_idsOf, C09_reachAll_spec]
  exact C09_ids_eq_reach_partial E r n o rel tr h hcuts u


namespace C09ex

def S : Subject := .set "g" 0 "m"
def A : Subject := .set "g" 1 "m"
def B : Subject := .set "g" 2 "m"
def u : Subject := .id 9

/-- `S→A, S→B, A→B, B→u` with `A` stored before `B`. -/
def TAB : List Tuple := [⟨"g", 0, "m", A⟩, ⟨"g", 0, "m", B⟩, ⟨"g", 1, "m", B⟩, ⟨"g", 2, "m", u⟩]
/-- The same tuples with `B` stored before `A`. -/
def TBA : List Tuple := [⟨"g", 0, "m", B⟩, ⟨"g", 0, "m", A⟩, ⟨"g", 1, "m", B⟩, ⟨"g", 2, "m", u⟩]

def env (T : List Tuple) (g : Int) : XEnv := { T := T, g := g, pageSize := 100 }

end C09ex

open C09ex in
/-- Refutes `C09_complete_within_depth` (finding F-expand-order): global depth 3, `u` is at distance 2 from `S`
    (`S → B → u`), so it fits into a tree of 3 levels. With `A` stored before `B` the
    model's tree is `S(A(B), B)`: `B` is first met below `A` at the last level (a depth cut),
    marked visited there and skipped as a child of `S`; `u` is missing. With `B` stored before
    `A` the tree is `S(B(u), A(B))`. -/
theorem C09_order_counterexample :
    -- u is reachable within the depth, in both orders
    u ∈ reachWithin TAB 3 S ∧ u ∈ reachWithin TBA 3 S ∧ ReachIn TAB S 2 u ∧
    -- A first: u is not in the tree (and the run made a depth cut)
    (∃ tr, (buildTree (env TAB 3) 0 S).1 = some tr ∧ u ∉ tr.subjects ∧ tr.height = 3) ∧
    (buildTree (env TAB 3) 0 S).2.cuts = 1 ∧
    -- B first: u is a leaf
    (∃ tr, (buildTree (env TBA 3) 0 S).1 = some tr ∧ u ∈ tr.descendants) := by
  refine ⟨by decide, by decide, ?_, ?_, by decide, ?_⟩
  · exact .step (n := "g") (o := 2) (r := "m") (.direct (n := "g") (o := 0) (r := "m") (s := B) rfl (by decide)) (by decide)
  · exact ⟨.union S [.union A [.leaf B], .leaf B], rfl, by decide, by decide⟩
  · exact ⟨.union S [.union B [.leaf u], .union A [.leaf B]], rfl, by decide⟩

open C09ex in
-- `C09_edges_sound`, `C09_once`, `C09_depth`, `C09_leaves_subset_reach`: the premise is met by a
-- concrete tree with union nodes, edges and leaves (depth 5, nothing is cut).
example : (buildTree (env TAB 5) 0 S).1 = some (.union S [.union A [.union B [.leaf u]], .leaf B]) := rfl

open C09ex in
-- … whose edges, union keys and height are what the conclusions of the first three speak of.
example : Tree.edges (.union S [.union A [.union B [.leaf u]], .leaf B]) = [(S, A), (A, B), (B, u), (S, B)] ∧
    Tree.unionKeys (.union S [.union A [.union B [.leaf u]], .leaf B]) = [("g", 0, "m"), ("g", 1, "m"), ("g", 2, "m")] ∧
    Tree.height (.union S [.union A [.union B [.leaf u]], .leaf B]) = 4 := by decide

open C09ex in
-- `C09_complete_unbound_partial` / `C09_leaves_eq_check`: `cuts = 0` is satisfiable, and `u` is reachable.
example : (buildTree (env TAB 5) 0 S).2.cuts = 0 ∧ Reach TAB S u :=
  ⟨by decide, (ReachIn.step (n := "g") (o := 2) (r := "m") (.direct (n := "g") (o := 0) (r := "m") (s := B) rfl (by decide))
    (by decide) : ReachIn TAB S 2 u).toReach⟩

open C09ex in
-- `C09_leaves_eq_check` and `C09_legacy_plain` applied to that run.
example : Mem [⟨"g", []⟩] TAB ⟨"g", 0, "m", .id 9⟩ :=
  (C09_leaves_eq_check [⟨"g", []⟩]
    (C09_legacy_plain _ (by intro ns h; simp at h; subst h; rfl))
    (env TAB 5) 0 "g" 0 "m" (.union S [.union A [.union B [.leaf u]], .leaf B]) rfl (by decide) 9).mpr (by decide)

open C09ex in
-- … and is not trivially true: with the depth cut of the witness the conclusion fails.
example : (buildTree (env TAB 3) 0 S).2.cuts ≠ 0 := by decide

open C09ex in
-- `C09_terminates` on a cycle `S → A → S` with depth 8: two storage calls, no fuel problem.
example : (buildTree (env [⟨"g", 0, "m", A⟩, ⟨"g", 1, "m", S⟩, ⟨"g", 1, "m", u⟩] 8) 0 S).1
      = some (.union S [.union A [.leaf S, .leaf u]]) ∧
    (buildTree (env [⟨"g", 0, "m", A⟩, ⟨"g", 1, "m", S⟩, ⟨"g", 1, "m", u⟩] 8) 0 S).2.calls = 2 := ⟨rfl, by decide⟩

open C09ex in
-- pages: page size 1, three rows below S: three storage calls for S, one for A
example : (buildTree { T := [⟨"g", 0, "m", A⟩, ⟨"g", 0, "m", u⟩, ⟨"g", 0, "m", .id 1⟩, ⟨"g", 1, "m", .id 2⟩], g := 5, pageSize := 1 } 0 S).2.calls = 4 := by
  decide

end Keto
