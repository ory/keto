/-
  C15 (storage operations) — a check on any data returns after a number of storage operations
  bounded by the depth and width limits, also when storage operations fail.

  Model: Keto/Model/Engine.lean.  Spec: Keto/Spec/Calls.lean (`callsBound`).  Lemmas:
  Keto/Proofs/EngineCalls.lean (`build_calls`: the same of every call of the engine, in any world).
  The bound does not mention the content of the store (cycles …), the fault oracle or the query. It
  DOES mention the number of stored tuples, and not only under `min width _`: the rows of a
  tuple-to-subject-set listing are not limited by max-width (finding F-ttu-width of DESIGN.md §5; second
  example below).
-/
import Keto.Model.Engine
import Keto.Spec.Calls
import Keto.Proofs.EngineCalls
import Keto.Props.C15

namespace Keto

/-- Every check makes at most `callsBound …` storage operations, for every fuel (with too little fuel
    the model gives up early, which only saves operations).  The bound depends on the effective depth,
    max-width, three counts of the configuration's rewrites, the page size and the NUMBER of stored
    tuples only. -/
theorem C15_calls_bounded (E : Env) (g : Int) (fuel : Nat) (q : Tuple) (r : Int) :
    (check E g fuel q r).2.calls ≤
      callsBound (Cfg.nRw E.cfg) (Cfg.nComp E.cfg) (Cfg.nTtu E.cfg) E.maxWidth E.pageSize E.T.length
        (effDepth r g).toNat := by
  have h := (build_calls E fuel (.isAllowed q (effDepth r g) false) {} {}).runB {}
  rwa [show ({} : World).calls = 0 from rfl, Nat.zero_add] at h

/-- Any upper bound `n` on the size of the store will do. -/
theorem C15_calls_bounded_of_le (E : Env) (g : Int) (fuel : Nat) (q : Tuple) (r : Int) (n : Nat)
    (hn : E.T.length ≤ n) :
    (check E g fuel q r).2.calls ≤
      callsBound (Cfg.nRw E.cfg) (Cfg.nComp E.cfg) (Cfg.nTtu E.cfg) E.maxWidth E.pageSize n (effDepth r g).toNat :=
  Nat.le_trans (C15_calls_bounded E g fuel q r)
    (callsBound_mono E.pageSize (Nat.le_refl _) (Nat.le_refl _) (Nat.le_refl _) (Nat.le_refl _) hn (Nat.le_refl _))

/-- Upper bounds on everything but the page size will do; in particular the configured global max depth
    `g` instead of the effective depth — no request can make a check cost more than `callsBound … g`. -/
theorem C15_calls_bounded_upper (E : Env) (g : Int) (fuel : Nat) (q : Tuple) (r : Int)
    (nRw nComp nTtu width n : Nat) (h1 : Cfg.nRw E.cfg ≤ nRw) (h2 : Cfg.nComp E.cfg ≤ nComp)
    (h3 : Cfg.nTtu E.cfg ≤ nTtu) (h4 : E.maxWidth ≤ width) (h5 : E.T.length ≤ n) :
    (check E g fuel q r).2.calls ≤ callsBound nRw nComp nTtu width E.pageSize n g.toNat :=
  Nat.le_trans (C15_calls_bounded E g fuel q r)
    (callsBound_mono E.pageSize h1 h2 h3 h4 h5 (Int.toNat_le_toNat (effDepth_le r g)))

namespace C15callsEx

/-- `doc.view` = the viewers of the parent folders (one tuple-to-subject-set leaf). -/
def cfg : Cfg := [
  ⟨"folder", [⟨"viewer", [⟨"user", ""⟩], none⟩]⟩,
  ⟨"doc", [⟨"parent", [⟨"folder", ""⟩], none⟩,
           ⟨"view", [], some ⟨.or, [.ttu "parent" "viewer"]⟩⟩]⟩]

/-- `n` parent folders of doc 1. -/
def parents : Nat → List Tuple
  | 0 => []
  | n+1 => ⟨"doc", 1, "parent", .set "folder" (n + 10) ""⟩ :: parents n

/-- max-width 2, pages of 2 rows. -/
def env (n : Nat) : Env where
  cfg := cfg
  strict := false
  maxWidth := 2
  T := parents n
  fails := fun _ => false
  pageSize := 2

def q : Tuple := ⟨"doc", 1, "view", .id 7⟩

end C15callsEx

-- `C15_calls_bounded` on the cyclic store and the self-referential permission of C15ex: operations made
-- against the bound (3 + 5 * previous: exponential in the depth, as the worst case is — every level may
-- start `nComp + min width nTuples` checks); when the second operation fails the check still makes 13
-- (the checks that are evaluated eagerly during construction go on); the bound ignores the oracle.
example : (Cfg.nRw C15ex.cfg, Cfg.nComp C15ex.cfg, Cfg.nTtu C15ex.cfg) = (1, 2, 0) ∧
    (check C15ex.env 2 21 C15ex.qPerm 0).2.calls = 2 ∧ checkCallsBound C15ex.env (effDepth 0 2) = 18 ∧
    (check C15ex.env 3 21 C15ex.qPerm 0).2.calls = 6 ∧ checkCallsBound C15ex.env (effDepth 0 3) = 93 ∧
    (check C15ex.env 5 21 C15ex.qPerm 0).2.calls = 17 ∧ checkCallsBound C15ex.env (effDepth 0 5) = 2343 ∧
    (check { C15ex.env with fails := fun k => k == 2 } 5 21 C15ex.qPerm 0).1.err = some .storage ∧
    (check { C15ex.env with fails := fun k => k == 2 } 5 21 C15ex.qPerm 0).2.calls = 13 ∧
    checkCallsBound { C15ex.env with fails := fun k => k == 2 } (effDepth 0 5) = 2343 := by decide

-- `C15_calls_bounded`, F-ttu-width: at max-width 2 the operations grow with the number of parent folders
-- — the listing is not cut at max-width, so the dependence of the bound on the number of tuples is real.
example : (Cfg.nRw C15callsEx.cfg, Cfg.nComp C15callsEx.cfg, Cfg.nTtu C15callsEx.cfg) = (1, 0, 1) ∧
    (check (C15callsEx.env 0) 3 20 C15callsEx.q 0).2.calls = 3 ∧ checkCallsBound (C15callsEx.env 0) 3 = 4 ∧
    (check (C15callsEx.env 1) 3 20 C15callsEx.q 0).2.calls = 5 ∧ checkCallsBound (C15callsEx.env 1) 3 = 28 ∧
    (check (C15callsEx.env 3) 3 20 C15callsEx.q 0).2.calls = 10 ∧ checkCallsBound (C15callsEx.env 3) 3 = 155 ∧
    (check (C15callsEx.env 5) 3 20 C15callsEx.q 0).2.calls = 15 ∧ checkCallsBound (C15callsEx.env 5) 3 = 342 ∧
    (check (C15callsEx.env 5) 3 20 C15callsEx.q 0).2.limitHits = 0 := by decide

end Keto
