/-
  C01 — exactness of the check engine for ALL configurations, `!` included, against the declarative
  semantics with stratified negation `Tr` / `Fa` (Keto/Spec/Stratified.lean): `C01_exact_all`, hence
  `isMember ↔ Tr q` (`C01_exact_all_iff`) and agreement with the run-time oracle `refEval` whenever
  that answers (`C01_exact_all_refEval`).

  Both directions are proved TOGETHER, by one functional induction over `build` (`build_exact`,
  Keto/Proofs/EngineExactRewrite.lean): with `!`, soundness is conditional — `!c` answers
  `isMember` when `c` answered `notMember`, which proves `c` false only if the evaluation of `c` made no
  limit event (a depth cut is collapsed to `notMember` by the groups: `C01_exact_limit_counterexample`
  below) — so the `isMember` side needs the refutation side of the operand and vice versa.

  Hypotheses:
  * `E.strict = true → conforms E.cfg E.T`: as for the positive fragment (C01complete.lean);
  * `err = none`, `limitHits = 0`: no error in the answer, no limit event anywhere in the run.
  Not needed: absence of storage faults, a fuel bound, stratification of the instance (on a
  non-stratified instance such as `p = !p` the engine cannot finish without limit event or error —
  this is a consequence: neither `Tr` nor `Fa` holds there, `refEval_not_stratified_bad`).

  Lemmas: Keto/Proofs/EngineExact*.lean; the design of the proof is described at the head of
  EngineExactLogic.lean.
-/
import Keto.Model.Engine
import Keto.Spec.Membership
import Keto.Spec.Stratified
import Keto.Proofs.EngineExactRewrite
import Keto.Props.C01neg

namespace Keto

/-- Engine-shaped form, of a run without limit event: an answer without error that is not `isMember` is
    backed by a closed refutation shaped like the engine's search (`FaE`). -/
theorem C01_exact_all_engine (E : Env) (hs : E.strict = true → conforms E.cfg E.T = true) (g : Int) (fuel : Nat)
    (q : Tuple) (r : Int) :
    (check E g fuel q r).2.limitHits = 0 →
    ((check E g fuel q r).1.memb = .isMember → Tr E.cfg E.T q) ∧
    ((check E g fuel q r).1.decisive = false →
      (check E g fuel q r).1.memb = .notMember ∧ FaE E.cfg E.T [] q) := fun hlim =>
  ⟨(check_exact E hs g fuel q r hlim).1, fun hnd =>
    ⟨by rw [((check_exact E hs g fuel q r hlim).2 hnd).1]; rfl, ((check_exact E hs g fuel q r hlim).2 hnd).2⟩⟩

/-- Exactness of the check engine, every configuration: with no error and no limit event, an
    `isMember` answer means the query is a member and any other answer means it is refuted
    (stratified semantics). -/
theorem C01_exact_all (E : Env) (hs : E.strict = true → conforms E.cfg E.T = true) (g : Int) (fuel : Nat)
    (q : Tuple) (r : Int) :
    (check E g fuel q r).1.err = none → (check E g fuel q r).2.limitHits = 0 →
    ((check E g fuel q r).1.memb = .isMember → Tr E.cfg E.T q) ∧
    ((check E g fuel q r).1.memb ≠ .isMember → Fa E.cfg E.T q) :=
  fun herr hlim => ⟨(check_exact E hs g fuel q r hlim).1,
    fun hne => ((check_exact E hs g fuel q r hlim).2 (Res.decisive_eq_false.2 ⟨herr, hne⟩)).2.toFa⟩

/-- Soundness alone (`!` included): an `isMember` answer of a run without limit event is right. -/
theorem C01_sound_all (E : Env) (hs : E.strict = true → conforms E.cfg E.T = true) (g : Int) (fuel : Nat)
    (q : Tuple) (r : Int) :
    (check E g fuel q r).1.memb = .isMember → (check E g fuel q r).2.limitHits = 0 → Tr E.cfg E.T q :=
  fun hm hlim => (check_exact E hs g fuel q r hlim).1 hm

/-- Completeness alone (`!` included): an answer that is neither an error nor `isMember`, of a run
    without limit event, is `notMember` and the query is refuted. -/
theorem C01_complete_all (E : Env) (hs : E.strict = true → conforms E.cfg E.T = true) (g : Int) (fuel : Nat)
    (q : Tuple) (r : Int) :
    (check E g fuel q r).1.decisive = false → (check E g fuel q r).2.limitHits = 0 →
    (check E g fuel q r).1 = Res.nm ∧ Fa E.cfg E.T q ∧ ¬ Tr E.cfg E.T q := by
  intro hnd hlim
  obtain ⟨hnm, hfa⟩ := (check_exact E hs g fuel q r hlim).2 hnd
  exact ⟨hnm, hfa.toFa, fun htr => tr_fa_exclusive _ _ _ ⟨htr, hfa.toFa⟩⟩

/-- Exactness as an equivalence. -/
theorem C01_exact_all_iff (E : Env) (hs : E.strict = true → conforms E.cfg E.T = true) (g : Int) (fuel : Nat)
    (q : Tuple) (r : Int) :
    (check E g fuel q r).1.err = none → (check E g fuel q r).2.limitHits = 0 →
    ((check E g fuel q r).1.memb = .isMember ↔ Tr E.cfg E.T q) := by
  intro herr hlim
  obtain ⟨h1, h2⟩ := C01_exact_all E hs g fuel q r herr hlim
  refine ⟨h1, fun htr => ?_⟩
  by_cases hm : (check E g fuel q r).1.memb = .isMember
  · exact hm
  · exact absurd ⟨htr, h2 hm⟩ (tr_fa_exclusive _ _ _)

/-- The engine agrees with the reference evaluator whenever that answers. -/
theorem C01_exact_all_refEval (E : Env) (hs : E.strict = true → conforms E.cfg E.T = true) (g : Int) (fuel : Nat)
    (q : Tuple) (r : Int) (rfuel : Nat) :
    (check E g fuel q r).1.err = none → (check E g fuel q r).2.limitHits = 0 →
    refEval E.cfg E.T rfuel [] 0 (.node q) ≠ .bad →
    ((check E g fuel q r).1.memb = .isMember ↔ refEval E.cfg E.T rfuel [] 0 (.node q) = .t) :=
  fun herr hlim hnb => (C01_exact_all_iff E hs g fuel q r herr hlim).trans (refEval_t_iff_tr hnb).symm

/-- The engine cannot finish without error or limit event on a query that the stratified semantics
    leaves open (a non-stratified instance, an undeclared relation that matters). -/
theorem C01_open_not_answered (E : Env) (hs : E.strict = true → conforms E.cfg E.T = true) (g : Int) (fuel : Nat)
    (q : Tuple) (r : Int) (hnt : ¬ Tr E.cfg E.T q) (hnf : ¬ Fa E.cfg E.T q) :
    (check E g fuel q r).1.err ≠ none ∨ (check E g fuel q r).2.limitHits ≠ 0 := by
  cases he : (check E g fuel q r).1.err with
  | some e => exact Or.inl (fun h => by cases h)
  | none =>
    refine Or.inr (fun hlim => ?_)
    obtain ⟨h1, h2⟩ := C01_exact_all E hs g fuel q r he hlim
    by_cases hm : (check E g fuel q r).1.memb = .isMember
    · exact hnt (h1 hm)
    · exact hnf (h2 hm)

namespace C01negex

/-- `doc.ok = view && !banned` over the store of `C01negex` (Keto/Props/C01neg.lean). -/
def env : Env where
  cfg := cfg
  strict := false
  maxWidth := 100
  T := T
  fails := fun _ => false
  pageSize := 100

/-- the same in strict mode (the store conforms to the declared types) -/
def envStrict : Env := { env with strict := true }

/-- user 8 is a direct viewer of doc 2 (and banned from it through groups 3 ∋ 4 ∋ 8) -/
def envShallow : Env := { env with T := ⟨"doc", 2, "viewers", .id 8⟩ :: T }

/-- `x.p = !p` (not stratified), no tuple -/
def envP : Env := { env with cfg := cfgP, T := [] }

end C01negex

/-- Answers of the engine model on `C01negex` that several examples rest on. -/
theorem C01negex.check_ok7 : (check C01negex.env 10 200 ⟨"doc", 2, "ok", .id 7⟩ 0).1 = Res.isM ∧
    (check C01negex.env 10 200 ⟨"doc", 2, "ok", .id 7⟩ 0).2.limitHits = 0 := by decide

theorem C01negex.check_ok8 : (check C01negex.env 10 200 ⟨"doc", 2, "ok", .id 8⟩ 0).1 = Res.nm ∧
    (check C01negex.env 10 200 ⟨"doc", 2, "ok", .id 8⟩ 0).2.limitHits = 0 := by decide

-- non-vacuity: the configuration uses `!` …
example : C01negex.env.cfg.posB = false := by decide

-- … user 7 is allowed THROUGH the negation (the refutation of `banned` below the `!` runs into a group
-- cycle), without error or limit event;
example : (check C01negex.env 10 200 ⟨"doc", 2, "ok", .id 7⟩ 0).1.err = none ∧
    (check C01negex.env 10 200 ⟨"doc", 2, "ok", .id 7⟩ 0).2.limitHits = 0 ∧
    (check C01negex.env 10 200 ⟨"doc", 2, "ok", .id 7⟩ 0).1.memb = .isMember :=
  ⟨congrArg Res.err C01negex.check_ok7.1, C01negex.check_ok7.2, congrArg Res.memb C01negex.check_ok7.1⟩

-- user 8 is denied BECAUSE of the negation (a viewer, but banned), without error or limit event;
example : (check C01negex.env 10 200 ⟨"doc", 2, "ok", .id 8⟩ 0).1.err = none ∧
    (check C01negex.env 10 200 ⟨"doc", 2, "ok", .id 8⟩ 0).2.limitHits = 0 ∧
    (check C01negex.env 10 200 ⟨"doc", 2, "ok", .id 8⟩ 0).1.memb ≠ .isMember ∧
    (check C01negex.env 10 200 ⟨"doc", 2, "view", .id 8⟩ 0).1.memb = .isMember :=
  ⟨congrArg Res.err C01negex.check_ok8.1, C01negex.check_ok8.2, by rw [C01negex.check_ok8.1]; decide, by decide⟩

-- `C01_exact_all` applied to those answers: the conclusions are derived from the ENGINE's answers.
example : Tr C01negex.cfg C01negex.T ⟨"doc", 2, "ok", .id 7⟩ :=
  (C01_exact_all C01negex.env (fun h => by cases h) 10 200 _ 0 (congrArg Res.err C01negex.check_ok7.1)
    C01negex.check_ok7.2).1 (congrArg Res.memb C01negex.check_ok7.1)

-- … and its refutation side:
example : Fa C01negex.cfg C01negex.T ⟨"doc", 2, "ok", .id 8⟩ :=
  (C01_exact_all C01negex.env (fun h => by cases h) 10 200 _ 0 (congrArg Res.err C01negex.check_ok8.1)
    C01negex.check_ok8.2).2 (by rw [C01negex.check_ok8.1]; decide)

-- and the oracle agrees (its premise `≠ bad` is met):
example : refEval C01negex.env.cfg C01negex.env.T 20 [] 0 (.node ⟨"doc", 2, "ok", .id 7⟩) ≠ .bad ∧
    refEval C01negex.env.cfg C01negex.env.T 20 [] 0 (.node ⟨"doc", 2, "ok", .id 8⟩) ≠ .bad :=
  ⟨(nomatch C01negex.ref_ok7.symm.trans ·), (nomatch C01negex.ref_ok8.symm.trans ·)⟩

-- strict mode: the hypotheses are satisfiable and the premises are met.
example : conforms C01negex.envStrict.cfg C01negex.envStrict.T = true ∧
    (check C01negex.envStrict 10 200 ⟨"doc", 2, "ok", .id 7⟩ 0).1 = Res.isM ∧
    (check C01negex.envStrict 10 200 ⟨"doc", 2, "ok", .id 7⟩ 0).2.limitHits = 0 ∧
    (check C01negex.envStrict 10 200 ⟨"doc", 2, "ok", .id 8⟩ 0).1 = Res.nm ∧
    (check C01negex.envStrict 10 200 ⟨"doc", 2, "ok", .id 8⟩ 0).2.limitHits = 0 :=
  ⟨by decide, by decide, by decide, by decide, by decide⟩

/-- Refutes `C01_sound_all` without its hypothesis `limitHits = 0`, and with it "limits fail closed"
    (C02) for configurations with `!` (finding F-unknown): with depth 3 the search below `!banned` is
    cut, the cut is collapsed to `notMember` by the group, `!` turns it into `isMember` — user 8 is
    allowed although banned (the query is refuted). -/
theorem C01_exact_limit_counterexample :
    (check C01negex.envShallow 3 200 ⟨"doc", 2, "ok", .id 8⟩ 0).1 = Res.isM ∧
    (check C01negex.envShallow 3 200 ⟨"doc", 2, "ok", .id 8⟩ 0).2.limitHits ≠ 0 ∧
    Fa C01negex.envShallow.cfg C01negex.envShallow.T ⟨"doc", 2, "ok", .id 8⟩ ∧
    ¬ Tr C01negex.envShallow.cfg C01negex.envShallow.T ⟨"doc", 2, "ok", .id 8⟩ :=
  ⟨by decide, by decide,
    (refEval_decides C01negex.envShallow.cfg C01negex.envShallow.T 20 ⟨"doc", 2, "ok", .id 8⟩).2 (by decide)⟩

-- with enough depth the same query is denied, without limit event:
example : (check C01negex.envShallow 10 200 ⟨"doc", 2, "ok", .id 8⟩ 0).1 = Res.nm ∧
    (check C01negex.envShallow 10 200 ⟨"doc", 2, "ok", .id 8⟩ 0).2.limitHits = 0 :=
  ⟨by decide, by decide⟩

/-- On the non-stratified instance `p = !p` the engine never finishes cleanly, whatever the depth,
    the fuel and the fault oracle. -/
theorem C01_not_stratified_not_answered (E : Env) (hc : E.cfg = C01negex.cfgP) (hT : E.T = []) (g : Int)
    (fuel : Nat) (o : Nat) (sub : Subject) (r : Int) :
    (check E g fuel ⟨"x", o, "p", sub⟩ r).1.err ≠ none ∨ (check E g fuel ⟨"x", o, "p", sub⟩ r).2.limitHits ≠ 0 := by
  have h := refEval_not_stratified_bad o sub
  refine C01_open_not_answered E (fun _ => by rw [hT]; rfl) g fuel _ r ?_ ?_
  · rw [hc, hT]; exact h.1
  · rw [hc, hT]; exact h.2.1

-- `C01_not_stratified_not_answered` on an instance: the run ends with a limit event.
set_option maxRecDepth 8000 in
example : (check C01negex.envP 10 200 ⟨"x", 1, "p", .id 7⟩ 0).2.limitHits ≠ 0 := by decide

end Keto
