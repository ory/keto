/-
  C04 — the relationship store behaves as a per-network multiset under any API history.

  Model: Keto/Model/Store.lean (`run`: histories of REST/gRPC/Persister requests, valid or not, over the table
  and the mapping table; chunked statements inside transactions).
  Specification: Keto/Spec/Multiset.lean (`specRun`: count functions network → relationship → ℕ); `abs` forgets
  shard ids and order.
  Lemmas: Keto/Proofs/StoreTable.lean (the table), Keto/Proofs/StoreLemmas.lean (requests).
  Not proved here: that a write is visible to every check and expand issued after it.  The engine model reads
  its own table (`E.T`), so that part is left to the correspondence streams.
  `C04_rejected_no_effect` is one half of `C05_requests_all_or_nothing`: hence the import of C05.
-/
import Keto.Model.Store
import Keto.Spec.Multiset
import Keto.Proofs.StoreLemmas
import Keto.Props.C05

namespace Keto.Store

/-- The theorems below take any positive chunk sizes; those extracted from the sources (`{}`) are positive. -/
theorem C04_chunk_sizes_pos : ({} : Chunking).pos :=
  FactsTie.chunk_sizes_pos

/-- `WriteRelationTuples` / `DeleteRelationTuples` / `TransactRelationTuples` with any chunk sizes ≥ 1 equal the
    unchunked operations (one INSERT with all rows, one DELETE with all listed relationships). -/
theorem C04_chunking_unobservable (cI cD : Nat) (hI : 0 < cI) (hD : 0 < cD) (nid : Nat)
    (ins : List (Tuple × Nat)) (del : List Tuple) (s : Store) :
    writeC cI nid ins s = insertRows (mkRows nid ins) s ∧
    deleteC cD nid del s = deleteStmt nid del s ∧
    transactC cI cD nid ins del s = deleteStmt nid del (insertRows (mkRows nid ins) s) :=
  ⟨writeC_eq cI hI nid ins s, deleteC_eq cD hD nid del s, transactC_eq cI cD hI hD nid ins del s⟩

/-- Corollary of the third conjunct of `C04_chunking_unobservable`. -/
theorem C04_chunk_sizes_irrelevant (c c' d d' : Nat) (hc : 0 < c) (hc' : 0 < c') (hd : 0 < d) (hd' : 0 < d')
    (nid : Nat) (ins : List (Tuple × Nat)) (del : List Tuple) (s : Store) :
    transactC c d nid ins del s = transactC c' d' nid ins del s := by
  rw [transactC_eq c d hc hd, transactC_eq c' d' hc' hd']

/-- Refinement: for every history of requests (REST, gRPC, Persister; any networks; valid and invalid
    arguments) run without storage faults (with faults: `C05_requests_all_or_nothing`), from every initial
    database, the table reached is, as a multiset per network, what the specification predicts. -/
theorem C04_refines (ck : Chunking) (hck : ck.pos) (cfg : Names) (h : History) (db : DB) :
    abs (run ck cfg noFail h db).2.rows = specRun cfg h (abs db.rows) :=
  run_abs ck hck cfg h db

theorem C04_refines_init (ck : Chunking) (hck : ck.pos) (cfg : Names) (h : History) :
    abs (run ck cfg noFail h {}).2.rows = specRun cfg h MS.empty :=
  run_abs ck hck cfg h {}

/-- Every complete listing (`listAll`: the API, following the tokens) is accepted iff the specification accepts
    it and returns, as a multiset, exactly `{t ∈ Model(h) | t matches Q}`; every `exists` answers whether such a
    relationship exists. -/
def ObsAgree (ck : Chunking) (cfg : Names) : History → DB → MS → Prop
  | [], _, _ => True
  | (nid, op) :: h, db, m =>
    (match op with
      | .listAll q size =>
        match (step ck cfg noFail nid op db).1.pages, specListAll cfg nid q size m with
        | some ps, some f => ∀ t, ((pagesRows ps).map (·.t)).count t = f t
        | none, none => True
        | _, _ => False
      | .pExists q => ((step ck cfg noFail nid op db).1.found = some true ↔ m.has nid q)
      | _ => True)
    ∧ ObsAgree ck cfg h (step ck cfg noFail nid op db).2 (specStep cfg nid op m)

/-- The observations of a fault-free run agree with the specification.  `WF` (shard order, distinct non-nil
    ids) and `FreshRun` (fresh shard ids for inserted rows) stand for the primary key and `uuid.NewV4`. -/
theorem C04_observations (ck : Chunking) (hck : ck.pos) (cfg : Names) (h : History) (db : DB)
    (hwf : WF db.rows) (hfresh : FreshRun ck cfg noFail h db) :
    ObsAgree ck cfg h db (abs db.rows) := by
  induction h generalizing db with
  | nil => trivial
  | cons x h ih =>
    rcases x with ⟨nid, op⟩
    refine ⟨?_, ?_⟩
    · cases op with
      | listAll q size => exact listAllReq_spec ck cfg nid q size db hwf
      | pExists q =>
        show (some (existsTuples nid q db.rows) = some true ↔ _)
        rw [Option.some.injEq]
        exact existsTuples_iff nid q db.rows
      | _ => trivial
    · rw [← step_abs ck hck]
      exact ih _ (step_WF ck hck cfg noFail nid op db hwf hfresh.1) hfresh.2

/-- A request that is not answered `ok` leaves both tables (relationships and name mappings) as they were,
    whatever the fault oracle. -/
theorem C04_rejected_no_effect (ck : Chunking) (cfg : Names) (fail : Oracle) (nid : Nat) (op : Op) (db : DB)
    (h : (step ck cfg fail nid op db).1.status ≠ .ok) : (step ck cfg fail nid op db).2 = db :=
  (C05_requests_all_or_nothing ck cfg fail nid op db).2 h

/-- Writes that name an unknown namespace or carry no subject (`specTuple cfg t = none`) are rejected, at any
    position of a patch / transact request; so are deletes by a query naming an unknown namespace. -/
theorem C04_invalid_rejected (ck : Chunking) (cfg : Names) (fail : Oracle) (nid : Nat) (db : DB) :
    (∀ t sh, specTuple cfg t = none → (step ck cfg fail nid (.restCreate t sh) db).1.status ≠ .ok) ∧
    (∀ ds d t, d ∈ ds → d.action ≠ .other → d.t = some t → specTuple cfg t = none →
        (step ck cfg fail nid (.restPatch ds) db).1.status ≠ .ok ∧
        (step ck cfg fail nid (.grpcTransact ds) db).1.status ≠ .ok) ∧
    (∀ q, specQuery cfg q = false →
        (step ck cfg fail nid (.restDelete q) db).1.status ≠ .ok ∧
        (step ck cfg fail nid (.grpcDelete (some q)) db).1.status ≠ .ok) := by
  refine ⟨fun t sh hs => ?_, fun ds d t hd ha ht hs => ?_, fun q hq => ?_⟩
  · exact step_rejects ck cfg fail nid _ db rfl fun r h =>
      planTx_rejects (.inl (by simp [specTuples, hs])) r (ok_of_ite h)
  · have hrej : ∀ r, planTx cfg (withAction .insert ds) ((withAction .delete ds).map (·.1)) ≠ .ok r :=
      planTx_rejects (by rw [withAction_tuples, withAction_tuples]; exact deltas_none hd ha ht hs)
    exact ⟨step_rejects ck cfg fail nid _ db rfl fun r h => hrej r (ok_of_ite h),
      step_rejects ck cfg fail nid _ db rfl fun r h => hrej r (ok_of_ite (ok_of_ite h))⟩
  · have hrej : ∀ r, planDelete cfg q ≠ .ok r := fun r h => by
      rw [planDelete, fromQuery_eq, hq] at h
      cases h
    exact ⟨step_rejects ck cfg fail nid _ db rfl fun r h => hrej r (ok_of_ite h),
      step_rejects ck cfg fail nid _ db rfl hrej⟩

namespace C04ex

def cfg : Names := ["doc", "group"]
def a : ATuple := { ns := "doc", obj := 1, rel := "viewer", sid := some 7 }
def b : ATuple := { ns := "doc", obj := 1, rel := "viewer", sset := some ("group", 2, "member") }
def noSubject : ATuple := { ns := "doc", obj := 1, rel := "viewer" }
def unknownNs : ATuple := { ns := "nope", obj := 1, rel := "viewer", sid := some 7 }
def ta : Tuple := ⟨"doc", 1, "viewer", .id 7⟩
def tb : Tuple := ⟨"doc", 1, "viewer", .set "group" 2 "member"⟩

/-- create a twice (a duplicate), patch [insert b, delete a], a rejected patch, delete by query in another
    network, a complete listing. -/
def hist : History := [
  (0, .restCreate a 50), (0, .restCreate a 20),
  (0, .restPatch [⟨.insert, some b, 30⟩, ⟨.delete, some a, 0⟩]),
  (0, .restPatch [⟨.insert, some a, 40⟩, ⟨.insert, some noSubject, 41⟩]),
  (0, .grpcTransact [⟨.insert, some a, 60⟩, ⟨.other, none, 0⟩]),
  (1, .grpcDelete (some {})),
  (0, .listAll (some {}) 1)]

-- `C04_refines_init` on `hist`, model side …
example : ((run {} cfg noFail hist {}).2.rows.map fun r => (r.shard, r.nid, r.t)) = [(30, 0, tb), (60, 0, ta)] := by
  decide
-- … and specification side.
example : specRun cfg hist MS.empty 0 ta = 1 ∧ specRun cfg hist MS.empty 0 tb = 1 ∧
    specRun cfg hist MS.empty 1 ta = 0 := by decide
-- `C04_rejected_no_effect`: the 4th request (a relationship without subject) is answered 400.
example : ((run {} cfg noFail hist {}).1.map (·.status)) = [.ok, .ok, .ok, .bad, .ok, .ok, .ok] := by decide
-- `C04_observations`: the closing listing, on two pages.
example : (((run {} cfg noFail hist {}).1.getLast?.bind (·.pages)).map fun ps => ps.map fun p => p.rows.map (·.shard))
    = some [[30], [60]] := by decide
-- `hfresh` of `C04_observations` holds for `hist`.
example : FreshRun {} cfg noFail hist {} := by
  refine ⟨?_, ?_, ?_, ?_, ?_, ?_, ?_, trivial⟩ <;> (unfold Fresh; decide)
-- Hypothesis of `C04_invalid_rejected`: no subject, unknown namespace.
example : specTuple cfg noSubject = none ∧ specTuple cfg unknownNs = none ∧ specTuple cfg a = some ta := by decide
-- Its conclusion.
example : (step {} cfg noFail 0 (.restCreate unknownNs 9) {}).1.status = .notFound := by decide
-- `C04_chunking_unobservable` with more than one statement.
example : (writeStmts 2 0 [(ta, 1), (tb, 2), (ta, 3), (tb, 4), (ta, 5)]).length = 3 := by decide

end C04ex

end Keto.Store
