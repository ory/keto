/-
  `match` (`P.mtch`, `P.mtchIf`) looks at the remaining items only, and all it does to the parser state is: call
  `next` some number `k` of times and, on failure, report one fatal error at the item it stopped at (`P.fin`).
  `matchL` is that reading as a function of the item list; `mtch_eq` / `mtchIf_eq` say the model agrees.
-/
import Keto.Model.Parser

namespace Keto.Opl
open Keto

/-- `k` calls of `next`. -/
def P.adv (p : P) (k : Nat) : P := { p with toks := p.toks.drop k, steps := p.steps + k }

def P.fin (p : P) (k : Nat) (err : Option (Item × ErrKind)) : P :=
  match err with
  | none => p.adv k
  | some e => (p.adv k).addFatal e.1 e.2

/-- Captures so far, calls of `next` so far, the fatal error. -/
structure MRes where
  caps : List Item
  k : Nat
  err : Option (Item × ErrKind)

def MRes.ok (r : MRes) : Bool := r.err.isNone

/-- What `match` returns from the state `p0`, given its reading `r` of the items of `p0`. -/
def MRes.out (p0 : P) (r : MRes) : Bool × List Item × P := (r.ok, r.caps, p0.fin r.k r.err)

/-- `matchRest` on the item list `l`, after `k` calls of `next`. -/
def restL : List (List UInt8) → List Item → Nat → Nat × Option (Item × ErrKind)
  | [], _, k => (k, none)
  | t :: ts, l, k =>
    if valIs (l.headD brokenItem) t then restL ts l.tail (k + 1) else (k + 1, some (l.headD brokenItem, .expectedToken))

/-- `optional`. -/
def optL (ts : List (List UInt8)) (l : List Item) : Nat × Option (Item × ErrKind) :=
  match ts with
  | [] => (0, none)
  | first :: rest => if valIs (l.headD brokenItem) first then restL rest l.tail 1 else (0, none)

/-- `matchLoop`. -/
def matchL : List Pat → List Item → List Item → Nat → MRes
  | [], _, caps, k => ⟨caps, k, none⟩
  | .lit t :: ps, l, caps, k =>
    if valIs (l.headD brokenItem) t then matchL ps l.tail caps (k + 1)
    else ⟨caps, k + 1, some (l.headD brokenItem, .expectedToken)⟩
  | .ident :: ps, l, caps, k =>
    if (l.headD brokenItem).typ == .identifier || (l.headD brokenItem).typ == .stringLiteral then
      matchL ps l.tail (caps ++ [l.headD brokenItem]) (k + 1)
    else ⟨caps, k + 1, some (l.headD brokenItem, .expectedIdentifier)⟩
  | .item :: ps, l, caps, k => matchL ps l.tail (caps ++ [l.headD brokenItem]) (k + 1)
  | .opt ts :: ps, l, caps, k =>
    match (optL ts l).2 with
    | none => matchL ps (l.drop (optL ts l).1) caps (k + (optL ts l).1)
    | some e => ⟨caps, k + (optL ts l).1, some e⟩

theorem next_eq (p : P) : p.next = (p.toks.headD brokenItem, p.adv 1) := by
  unfold P.next P.adv
  cases p.toks <;> rfl

theorem adv_adv (p : P) (a b : Nat) : (p.adv a).adv b = p.adv (a + b) := by
  simp [P.adv, List.drop_drop, Nat.add_assoc]

theorem adv_toks (p : P) (k : Nat) : (p.adv k).toks = p.toks.drop k := rfl

/-- The counts of `restL` / `matchL` go on from the number `k` of calls of `next` made since the state `p0`, so
    the three loops are compared with them from `p0.adv k`, for every `k`. -/
theorem matchRest_eq (p0 : P) : ∀ (ts : List (List UInt8)) (k : Nat),
    matchRest ts (p0.adv k) =
      ((restL ts (p0.toks.drop k) k).2.isNone, p0.fin (restL ts (p0.toks.drop k) k).1 (restL ts (p0.toks.drop k) k).2)
  | [], k => rfl
  | t :: ts, k => by
    unfold matchRest restL
    simp only [next_eq, adv_adv, adv_toks, List.tail_drop]
    split
    · exact matchRest_eq p0 ts (k + 1)
    · rfl

theorem optional_eq (ts : List (List UInt8)) (p : P) :
    optional ts p = ((optL ts p.toks).2.isNone, p.fin (optL ts p.toks).1 (optL ts p.toks).2) := by
  unfold optional optL
  split
  · rfl
  · simp only [P.peek, next_eq]
    split
    · rw [matchRest_eq p _ 1, List.drop_one]
    · rfl

theorem matchLoop_eq (p0 : P) : ∀ (pats : List Pat) (caps : List Item) (k : Nat),
    matchLoop pats caps (p0.adv k) = (matchL pats (p0.toks.drop k) caps k).out p0
  | [], caps, k => rfl
  | .lit t :: ps, caps, k => by
    unfold matchLoop matchL
    simp only [next_eq, adv_adv, adv_toks, List.tail_drop]
    split
    · exact matchLoop_eq p0 ps caps (k + 1)
    · rfl
  | .ident :: ps, caps, k => by
    unfold matchLoop matchL
    simp only [next_eq, adv_adv, adv_toks, List.tail_drop]
    split
    · exact matchLoop_eq p0 ps _ (k + 1)
    · rfl
  | .item :: ps, caps, k => by
    unfold matchLoop matchL
    simp only [next_eq, adv_adv, adv_toks, List.tail_drop]
    exact matchLoop_eq p0 ps _ (k + 1)
  | .opt ts :: ps, caps, k => by
    unfold matchLoop matchL
    simp only [optional_eq, adv_toks]
    cases (optL ts (p0.toks.drop k)).2 with
    | none =>
      simp only [Option.isNone_none, if_true, P.fin, adv_adv, List.drop_drop]
      exact matchLoop_eq p0 ps caps _
    | some e =>
      simp only [Option.isNone_some, Bool.false_eq_true, if_false, P.fin, adv_adv]
      rfl

theorem mtch_eq (p : P) (pats : List Pat) :
    p.mtch pats = if p.fatal then (false, [], p) else (matchL pats p.toks [] 0).out p := by
  unfold P.mtch
  rw [show matchLoop pats [] p = matchLoop pats [] (p.adv 0) from rfl, matchLoop_eq]
  rfl

theorem mtchIf_eq (p : P) (typ : ItemType) (pats : List Pat) :
    p.mtchIf typ pats = if p.fatal || (p.toks.headD brokenItem).typ != typ then (false, [], p) else p.mtch pats := by
  unfold P.mtchIf P.peek
  cases p.fatal <;> simp

def patCost : Pat → Nat
  | .lit _ => 1
  | .ident => 1
  | .item => 1
  | .opt ts => ts.length

def patsCost : List Pat → Nat
  | [] => 0
  | p :: ps => patCost p + patsCost ps

/-- An item the parser can hold when `l` are the items still to come: one of them, or one of the two 0:0 items
    (`brokenItem` after the end, `Item.zero` for a capture that was not written). -/
def Seen (l : List Item) (i : Item) : Prop := i = Item.zero ∨ i = brokenItem ∨ i ∈ l

theorem Seen.tail {l : List Item} {i : Item} (h : Seen l.tail i) : Seen l i :=
  h.imp_right (·.imp_right List.mem_of_mem_tail)

theorem Seen.drop {l : List Item} {i : Item} {k : Nat} (h : Seen (l.drop k) i) : Seen l i :=
  h.imp_right (·.imp_right List.mem_of_mem_drop)

theorem seen_headD (l : List Item) : Seen l (l.headD brokenItem) := by
  cases l with
  | nil => exact Or.inr (Or.inl rfl)
  | cons x xs => exact Or.inr (Or.inr List.mem_cons_self)

theorem restL_spec (ts : List (List UInt8)) (l : List Item) (k : Nat) :
    (restL ts l k).1 ≤ k + ts.length ∧ ∀ e, (restL ts l k).2 = some e → Seen l e.1 := by
  fun_induction restL ts l k with
  | case1 => exact ⟨Nat.le_refl _, fun _ h => nomatch h⟩
  | case2 t ts l k _ ih =>
    exact ⟨by simp only [List.length_cons]; omega, fun e h => (ih.2 e h).tail⟩
  | case3 t ts l k =>
    exact ⟨by simp only [List.length_cons]; omega, fun e h => by cases h; exact seen_headD l⟩

theorem optL_spec (ts : List (List UInt8)) (l : List Item) :
    (optL ts l).1 ≤ ts.length ∧ ∀ e, (optL ts l).2 = some e → Seen l e.1 := by
  fun_cases optL ts l with
  | case1 | case3 => exact ⟨Nat.zero_le _, fun _ h => nomatch h⟩
  | case2 first rest =>
    have ih := restL_spec rest l.tail 1
    exact ⟨by simp only [List.length_cons]; omega, fun e h => (ih.2 e h).tail⟩

theorem matchL_spec (pats : List Pat) (l caps : List Item) (k : Nat) :
    (k ≤ (matchL pats l caps k).k ∧ (matchL pats l caps k).k ≤ k + patsCost pats) ∧
    (∀ e, (matchL pats l caps k).err = some e → Seen l e.1) ∧
    ∀ i ∈ (matchL pats l caps k).caps, i ∈ caps ∨ Seen l i := by
  fun_induction matchL pats l caps k with
  | case1 => exact ⟨⟨Nat.le_refl _, Nat.le_refl _⟩, fun _ h => (nomatch h), fun i h => .inl h⟩
  | case2 t ps l caps k _ ih =>
    exact ⟨by simp only [patsCost, patCost]; omega, fun e h => (ih.2.1 e h).tail,
      fun i h => (ih.2.2 i h).imp_right Seen.tail⟩
  | case3 t ps l caps k | case5 ps l caps k =>
    exact ⟨by simp only [patsCost, patCost]; omega, fun e h => by cases h; exact seen_headD l, fun i h => .inl h⟩
  | case4 ps l caps k _ ih | case6 ps l caps k ih =>
    exact ⟨by simp only [patsCost, patCost]; omega, fun e h => (ih.2.1 e h).tail, fun i h =>
      (ih.2.2 i h).elim (fun h => (List.mem_append.mp h).elim .inl fun h => .inr (List.mem_singleton.mp h ▸ seen_headD l))
        fun h => .inr h.tail⟩
  | case7 ts ps l caps k _ ih =>
    have ho := optL_spec ts l
    exact ⟨by simp only [patsCost, patCost]; omega, fun e h => (ih.2.1 e h).drop,
      fun i h => (ih.2.2 i h).imp_right Seen.drop⟩
  | case8 ts ps l caps k e he =>
    have ho := optL_spec ts l
    exact ⟨by simp only [patsCost, patCost]; omega, fun e' h => by cases h; exact ho.2 e he, fun i h => .inl h⟩

theorem valIs_ne_error {i : Item} {t : List UInt8} (h : valIs i t = true) : i.typ ≠ .error := by
  unfold valIs at h
  intro he
  simp [he] at h

theorem fin_toks (p : P) (k : Nat) (err : Option (Item × ErrKind)) : (p.fin k err).toks = p.toks.drop k := by
  cases err <;> rfl

theorem mtch_lt (p : P) (t : List UInt8) (ps : List Pat) (h : (p.mtch (.lit t :: ps)).1 = true) :
    (p.mtch (.lit t :: ps)).2.2.toks.length < p.toks.length := by
  rw [mtch_eq] at h ⊢
  split at h
  · cases h
  · rename_i hf
    rw [if_neg hf, MRes.out, fin_toks, List.length_drop]
    unfold matchL at h ⊢
    split at h
    · rename_i hv
      rw [if_pos hv]
      have hk := (matchL_spec ps p.toks.tail [] (0 + 1)).1.1
      have hne : p.toks ≠ [] := fun h0 => valIs_ne_error hv (by rw [h0]; rfl)
      have := List.length_pos_iff.mpr hne
      omega
    · cases h

theorem seen_cap {l caps : List Item} (h : ∀ i ∈ caps, Seen l i) (k : Nat) : Seen l (cap caps k) := by
  unfold cap
  rw [List.getD_eq_getElem?_getD]
  cases hk : caps[k]? with
  | none => exact Or.inl rfl
  | some i => exact h i (List.mem_of_getElem? hk)

end Keto.Opl
