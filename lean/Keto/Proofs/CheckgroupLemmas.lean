/-
  Invariant of the reachable states of the checkgroup event model (Keto/Model/Checkgroup.lean), and the ghost run
  of the results the consumer received. Inside `namespace Inv`, and in any theorem named `_.step`, the model's
  `step` has to be written `CG.step`: the bare name resolves to the theorem.
-/
import Keto.Model.Checkgroup

namespace Keto.CG
open Keto

theorem foldl_gAdd_none (rs : List Res) (h : ∀ r ∈ rs, r.decisive = false) :
    rs.foldl gAdd none = none := by
  induction rs with
  | nil => rfl
  | cons r rs ih => simp_all [gAdd]

theorem expected_nondec (rs : List Res) (h : ∀ r ∈ rs, r.decisive = false) :
    expected rs = Res.nm := by
  rw [expected, foldl_gAdd_none rs h]
  rfl

theorem expected_snoc_dec (rs : List Res) (r : Res) (h : ∀ x ∈ rs, x.decisive = false)
    (hd : r.decisive = true) : expected (rs ++ [r]) = r := by
  rw [expected, List.foldl_append, foldl_gAdd_none rs h]
  simp [gAdd, hd, gResult]

theorem expected_range_nondec (script : Nat → Res) (n : Nat)
    (h : ∀ j < n, (script j).decisive = false) :
    expected ((List.range n).map script) = Res.nm :=
  expected_nondec _ (by simpa using h)

theorem expected_range_dec (script : Nat → Res) (n : Nat)
    (h : ∀ j < n, (script j).decisive = false) (hd : (script n).decisive = true) :
    expected ((List.range (n + 1)).map script) = script n := by
  rw [List.range_succ, List.map_append]
  exact expected_snoc_dec _ _ (by simpa using h) hd

theorem eq_singleton_of_mem {l : List Nat} {i : Nat} (hl : l.length ≤ 1) (hi : i ∈ l) : l = [i] := by
  match l, hl, hi with
  | [x], _, hi => simp at hi; simp [hi]
  | _ :: _ :: _, hl, _ => simp at hl

/-- The invariant of the reachable states. `strict = true` is the variant for runs without
    `ctxDone` (the answer is then exactly the expected one). -/
structure Inv (strict : Bool) (script : Nat → Res) (s : St) : Prop where
  len_le : s.running.length ≤ 1
  last : ∀ i ∈ s.running, i + 1 = s.total
  no_drop : s.dropped = 0
  next_total : s.nextAdd = s.total
  fin_le : s.finished ≤ s.total
  count : s.done = none → s.running.length + s.finished = s.total
  token_idle : s.done = none → s.token = true → s.running = [] ∧ s.holder = false
  holder_idle : s.done = none → s.holder = true → s.running = [] ∧ s.token = false
  finalizing_busy : s.done = none → s.finalizing = true → s.running ≠ []
  drain_eq : s.done ≠ none → s.drain = s.running.length
  nondec : s.done = none → ∀ j < s.finished, (script j).decisive = false
  nondec_butlast : ∀ j, j + 1 < s.finished → (script j).decisive = false
  res : ∀ r, s.done = some r →
    r = expected ((List.range s.total).map script) ∨ (strict = false ∧ r = ctxErr)
  quiet : strict = true → s.done ≠ none → s.finished = s.total ∧ s.running = []

theorem Inv.init (b : Bool) (script : Nat → Res) : Inv b script {} := by
  constructor <;> simp

namespace Inv
variable {b : Bool} {script : Nat → Res} {s : St}

theorem nodup (h : Inv b script s) : s.running.Nodup := by
  have := h.len_le
  match hr : s.running with
  | [] => exact .nil
  | [i] => exact List.nodup_cons.mpr ⟨List.not_mem_nil, .nil⟩
  | _ :: _ :: _ => simp [hr] at this

theorem res_strict {r : Res} (h : Inv true script s) (hd : s.done = some r) :
    r = expected ((List.range s.total).map script) :=
  (h.res r hd).resolve_right fun hc => nomatch hc.1

theorem lt_next (h : Inv b script s) : ∀ i ∈ s.running, i < s.nextAdd := fun i hi => by
  have := h.last i hi
  have := h.next_total
  omega

/-! The reachable states have three shapes (until a cancellation): idle, one check running, returned
    with nothing running. Each shape gives the invariant; each step goes from one shape to another. -/

theorem of_idle (hd : s.done = none) (hr : s.running = []) (hf : s.finished = s.total)
    (hn : s.nextAdd = s.total) (hp : s.dropped = 0) (hfin : s.finalizing = false)
    (hh : s.holder = true → s.token = false)
    (hnd : ∀ j < s.total, (script j).decisive = false) : Inv b script s := by
  constructor
  case token_idle => exact fun _ ht => ⟨hr, Bool.eq_false_iff.mpr fun hs => nomatch (hh hs).symm.trans ht⟩
  case holder_idle => exact fun _ hs => ⟨hr, hh hs⟩
  case nondec => exact fun _ j hj => hnd j (hf ▸ hj)
  case nondec_butlast => exact fun j hj => hnd j (by omega)
  all_goals simp [*]

theorem of_busy {n : Nat} (hd : s.done = none) (hr : s.running = [n]) (hf : s.finished = n)
    (ht : s.total = n + 1) (hn : s.nextAdd = n + 1) (hp : s.dropped = 0) (htok : s.token = false)
    (hh : s.holder = false) (hnd : ∀ j < n, (script j).decisive = false) : Inv b script s := by
  constructor
  case count => exact fun _ => by rw [hr, hf, ht]; exact Nat.add_comm ..
  case nondec => exact fun _ j hj => hnd j (hf ▸ hj)
  case nondec_butlast => exact fun j hj => hnd j (by omega)
  all_goals simp [*]

theorem of_quiet {r : Res} (hd : s.done = some r) (hr : s.running = []) (hf : s.finished = s.total)
    (hn : s.nextAdd = s.total) (hp : s.dropped = 0) (hdr : s.drain = 0)
    (hnd : ∀ j, j + 1 < s.total → (script j).decisive = false)
    (hres : r = expected ((List.range s.total).map script)) : Inv b script s := by
  constructor
  case nondec_butlast => exact fun j hj => hnd j (hf ▸ hj)
  all_goals simp [*]

theorem idle_of_holder (h : Inv b script s) (he : enabled s .deliver = true) :
    s.done = none ∧ s.running = [] ∧ s.token = false ∧ s.finalizing = false ∧ s.finished = s.total := by
  simp only [enabled, Bool.and_eq_true, Option.isNone_iff_eq_none] at he
  obtain ⟨hr, ht⟩ := h.holder_idle he.1 he.2
  refine ⟨he.1, hr, ht, ?_, by simpa [hr] using h.count he.1⟩
  cases hf : s.finalizing
  · rfl
  · exact absurd hr (h.finalizing_busy he.1 hf)

theorem result_idx {i : Nat} (h : Inv b script s) (he : enabled s (.result i) = true) :
    s.done = none ∧ s.running = [i] ∧ s.finished = i ∧ s.total = i + 1 := by
  simp only [enabled, Bool.and_eq_true, Option.isNone_iff_eq_none, List.contains_iff_mem] at he
  have hr := eq_singleton_of_mem h.len_le he.2
  have a := h.count he.1
  have c := h.last i he.2
  rw [hr] at a
  exact ⟨he.1, hr, by simp at a; omega, c.symm⟩

theorem step_reserve (h : Inv b script s) (he : enabled s .reserve = true) :
    Inv b script (step script s .reserve) := by
  simp only [enabled, Bool.and_eq_true, Option.isNone_iff_eq_none, Bool.not_eq_true'] at he
  -- `h with`: a field that mentions only components the step leaves alone is `h`'s (unfold `step`)
  exact { h with
    token_idle := fun _ ht' => by cases ht'
    holder_idle := fun _ _ => ⟨(h.token_idle he.1.1 he.1.2).1, rfl⟩ }

theorem step_deliver (h : Inv b script s) (he : enabled s .deliver = true) :
    Inv b script (step script s .deliver) := by
  obtain ⟨hd, hr, ht, hfin, hf⟩ := h.idle_of_holder he
  simp only [CG.step, hfin, hr, Bool.false_eq_true, if_false, List.nil_append]
  exact of_busy hd rfl (hf.trans h.next_total.symm) (by simp [h.next_total]) rfl h.no_drop ht rfl
    (h.next_total ▸ hf ▸ h.nondec hd)

theorem step_finalize (h : Inv b script s) (he : enabled s .finalize = true) :
    Inv b script (step script s .finalize) := by
  have hd : s.done = none := by simpa [enabled] using he
  have hc := h.count hd
  simp only [CG.step]
  split
  · exact h
  · split
    · rename_i hf
      have hf : s.finished = s.total := by simpa using hf
      have hr : s.running = [] := List.eq_nil_of_length_eq_zero (by omega)
      exact of_quiet rfl hr hf h.next_total h.no_drop (by simp [complete, hf])
        (fun j hj => h.nondec hd j (by simp only [complete] at hj; omega))
        (expected_range_nondec script _ (hf ▸ h.nondec hd)).symm
    · rename_i hf
      exact { h with finalizing_busy := fun _ _ (hr : s.running = []) => hf (by simpa [hr] using hc) }

theorem step_result {i : Nat} (h : Inv b script s) (he : enabled s (.result i) = true) :
    Inv b script (step script s (.result i)) := by
  obtain ⟨hd, hr, hf, ht⟩ := h.result_idx he
  have hnd : ∀ j < i, (script j).decisive = false := hf ▸ h.nondec hd
  have hq {r} (hres : r = expected ((List.range (i + 1)).map script)) :
      Inv b script (complete { s with finished := s.finished + 1, running := [] } r) :=
    of_quiet rfl rfl (by simp [complete, hf, ht]) h.next_total h.no_drop (by simp [complete, hf, ht])
      (fun j hj => hnd j (by simp only [complete, ht] at hj; omega))
      (by simpa only [complete, ht] using hres)
  simp only [CG.step, hr, List.erase_cons_head]
  split
  · exact hq (expected_range_dec script i hnd ‹_›).symm
  · rename_i hdec
    have hall : ∀ j < i + 1, (script j).decisive = false := fun j hj =>
      (Nat.lt_succ_iff_lt_or_eq.mp hj).elim (hnd j) (fun e => by simpa [e] using hdec)
    split
    · exact hq (expected_range_nondec script _ hall).symm
    · rename_i hfin
      exact of_idle hd rfl (by simp [hf, ht]) h.next_total h.no_drop (by simpa [hf, ht] using hfin)
        (fun hh => by simp [(h.holder_idle hd hh).1] at hr) (ht ▸ hall)

theorem step_ctxDone (h : Inv false script s) (he : enabled s .ctxDone = true) :
    Inv false script (step script s .ctxDone) := by
  have hd : s.done = none := by simpa [enabled] using he
  have hc := h.count hd
  exact { h with
    count := nofun
    token_idle := nofun
    holder_idle := nofun
    finalizing_busy := nofun
    nondec := nofun
    quiet := nofun
    drain_eq := fun _ => by simp only [CG.step, complete]; omega
    res := fun r hr => .inr ⟨rfl, by cases hr; rfl⟩ }

theorem step_drainRecv {i : Nat} (h : Inv b script s) (he : enabled s (.drainRecv i) = true) :
    Inv b script (step script s (.drainRecv i)) := by
  simp only [enabled, Bool.and_eq_true, List.contains_iff_mem, decide_eq_true_eq] at he
  obtain ⟨⟨hd, hi⟩, -⟩ := he
  have hd : s.done ≠ none := fun hn => by simp [hn] at hd
  have hl : (s.running.erase i).length = s.running.length - 1 := List.length_erase_of_mem hi
  have := h.len_le
  have := h.drain_eq hd
  have hnd {p : Prop} (hn : s.done = none) : p := absurd hn hd
  exact { h with
    count := hnd
    token_idle := hnd
    holder_idle := hnd
    finalizing_busy := hnd
    len_le := by simp only [CG.step]; omega
    last := fun j hj => h.last j (List.mem_of_mem_erase hj)
    drain_eq := fun _ => by simp only [CG.step]; omega
    quiet := fun hb _ => by simp [(h.quiet hb hd).2] at hi }

end Inv

theorem Inv.step {b : Bool} {script : Nat → Res} {s : St} {e : Ev} (h : Inv b script s)
    (he : enabled s e = true) (hc : b = true → e ≠ .ctxDone) : Inv b script (step script s e) := by
  cases e with
  | reserve => exact h.step_reserve he
  | deliver => exact h.step_deliver he
  | finalize => exact h.step_finalize he
  | result i => exact h.step_result he
  | drainRecv i => exact h.step_drainRecv he
  | ctxDone =>
    cases b
    · exact h.step_ctxDone he
    · exact absurd rfl (hc rfl)

def ghostStep (script : Nat → Res) (g : List (Nat × Res)) : Ev → List (Nat × Res)
  | .result i => g ++ [(i, script i)]
  | _ => g

/-- `runFrom` that also records the pairs `(i, script i)` the consumer received from `resultCh`
    (the receives of the drain goroutine are not recorded: their values are thrown away). -/
def runFromG (script : Nat → Res) : St → List (Nat × Res) → List Ev → Option (St × List (Nat × Res))
  | s, g, [] => some (s, g)
  | s, g, e :: es =>
    if enabled s e then runFromG script (step script s e) (ghostStep script g e) es else none

def runG (script : Nat → Res) (es : List Ev) : Option (St × List (Nat × Res)) :=
  runFromG script {} [] es

theorem runFromG_eq (script : Nat → Res) :
    ∀ (es : List Ev) (s : St) (g : List (Nat × Res)),
      runFromG script s g es = (runFrom script s es).map (·, es.foldl (ghostStep script) g)
  | [], _, _ => rfl
  | e :: es, s, g => by
    simp only [runFromG, runFrom, List.foldl_cons]
    split
    · exact runFromG_eq script es _ _
    · rfl

theorem runG_iff {script : Nat → Res} {es : List Ev} {s : St} {g : List (Nat × Res)} :
    runG script es = some (s, g) ↔ run script es = some s ∧ g = es.foldl (ghostStep script) [] := by
  rw [runG, runFromG_eq, ← run]
  cases run script es <;> simp [eq_comm]

def ghostOf (script : Nat → Res) (n : Nat) : List (Nat × Res) :=
  (List.range n).map (fun i => (i, script i))

theorem ghostOf_succ (script : Nat → Res) (n : Nat) :
    ghostOf script (n + 1) = ghostOf script n ++ [(n, script n)] := by
  simp [ghostOf, List.range_succ]

theorem ghostOf_dropLast (script : Nat → Res) (n : Nat) :
    (ghostOf script n).dropLast = ghostOf script (n - 1) := by
  cases n with
  | zero => rfl
  | succ n => rw [ghostOf_succ, List.dropLast_concat]; rfl

theorem mem_ghostOf {script : Nat → Res} {n : Nat} {p : Nat × Res} (h : p ∈ ghostOf script n) :
    p.1 < n ∧ p.2 = script p.1 := by
  simp only [ghostOf, List.mem_map, List.mem_range] at h
  obtain ⟨j, hj, rfl⟩ := h
  exact ⟨hj, rfl⟩

theorem step_finished (script : Nat → Res) (s : St) (e : Ev) :
    (step script s e).finished = match e with | .result _ => s.finished + 1 | _ => s.finished := by
  fun_cases step script s e <;> rfl

/-- One step of the ghost: only `result i` moves `finished`, and `i` is then `finished`. -/
theorem Inv.ghost {b : Bool} {script : Nat → Res} {s : St} {e : Ev} (h : Inv b script s)
    (he : enabled s e = true) :
    ghostStep script (ghostOf script s.finished) e = ghostOf script (CG.step script s e).finished := by
  rw [step_finished]
  cases e with
  | result i => rw [(h.result_idx he).2.2.1]; exact (ghostOf_succ script i).symm
  | _ => rfl

theorem runFrom_inv {b : Bool} {script : Nat → Res} {es : List Ev} {s s' : St} (h : Inv b script s)
    (hc : b = true → Ev.ctxDone ∉ es) (hr : runFrom script s es = some s') :
    Inv b script s' ∧
      es.foldl (ghostStep script) (ghostOf script s.finished) = ghostOf script s'.finished := by
  fun_induction runFrom script s es with
  | case1 s => cases hr; exact ⟨h, rfl⟩
  | case2 s e es he ih =>
    rw [List.foldl_cons, h.ghost he]
    exact ih (h.step he fun hb heq => hc hb (heq ▸ List.mem_cons_self))
      (fun hb hm => hc hb (List.mem_cons_of_mem _ hm)) hr
  | case3 => cases hr

theorem run_inv {b : Bool} {script : Nat → Res} {es : List Ev} {s : St}
    (hc : b = true → Ev.ctxDone ∉ es) (hr : run script es = some s) : Inv b script s :=
  (runFrom_inv (Inv.init b script) hc hr).1

theorem runG_ghost {script : Nat → Res} {es : List Ev} {s : St} {g : List (Nat × Res)}
    (h : runG script es = some (s, g)) : g = ghostOf script s.finished := by
  obtain ⟨hr, rfl⟩ := runG_iff.mp h
  exact (runFrom_inv (Inv.init false script) nofun hr).2

theorem enabled_of_done {s : St} {e : Ev} (hd : s.done.isSome = true) (he : enabled s e = true) :
    ∃ i, e = .drainRecv i ∧ i ∈ s.running := by
  cases e <;> simp_all [enabled]

theorem drain_progress (script : Nat → Res) :
    ∀ (l : List Nat) (s : St), s.running = l → s.done.isSome = true → s.drain = l.length →
      ∃ s', runFrom script s (l.map Ev.drainRecv) = some s' ∧ s'.running = [] ∧ s'.drain = 0 ∧
        s'.done = s.done ∧ s'.total = s.total
  | [], s, hr, _, hn => ⟨s, rfl, hr, hn, rfl, rfl⟩
  | i :: l, s, hr, hd, hn => by
    have he : enabled s (.drainRecv i) = true := by
      simp [enabled, hd, hr, hn]
    have := drain_progress script l (step script s (.drainRecv i))
      (by simp [step, hr]) hd (by simp [step, hn])
    obtain ⟨s', h1, h2, h3, h4, h5⟩ := this
    exact ⟨s', by simp only [List.map_cons, runFrom, he, if_true]; exact h1, h2, h3, h4, h5⟩

end Keto.CG
