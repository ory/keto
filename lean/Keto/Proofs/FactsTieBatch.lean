/-
  Fact tie for C08 (see Keto/Proofs/FactsTie.lean): the size guard of the two batch entry points.
-/
import Keto.Generated.Facts

namespace Keto.FactsTie
open Keto.Facts

/-- The whole-batch rejection of both batch entry points tests `len(tuples) > max` (strictly). -/
def expectedBatchGuards : List (String × String × String) := [
  ("internal/check/handler.go", "Handler.doBatchCheck", ">"),
  ("internal/check/handler.go", "Handler.BatchCheck", ">")]

theorem batchGuards_tie : batchGuards = expectedBatchGuards := rfl

end Keto.FactsTie
