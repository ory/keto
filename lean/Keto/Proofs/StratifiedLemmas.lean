/-
  The stratified semantics `TrN` / `HTrN` / `FaN` / `HFaN` (Keto/Spec/Stratified.lean): membership and
  refutation exclude each other, and the reference evaluator `refEval` is correct for them, for every
  configuration, `!` included.
-/
import Keto.Model.Engine
import Keto.Spec.Membership
import Keto.Spec.Positive
import Keto.Spec.Stratified
import Keto.Proofs.EngineSound
import Keto.Proofs.Height

namespace Keto

variable {c : Cfg} {T : List Tuple}

theorem strat_mono : ∀ k k', k ≤ k' →
    (∀ t, TrN c T k t → TrN c T k' t) ∧
    (∀ ch t, HTrN c T k ch t → HTrN c T k' ch t) ∧
    (∀ A t, FaN c T k A t → FaN c T k' A t) ∧
    (∀ A ch t, HFaN c T k A ch t → HFaN c T k' A ch t) := by
  intro k
  induction k with
  | zero =>
    refine fun _ _ => ⟨?_, ?_, ?_, ?_⟩
    · intro t h; cases h
    · intro ch t h; cases h
    · intro A t h; cases h
    · intro A ch t h; cases h
  | succ k ih =>
    intro k' hk
    obtain ⟨j, rfl⟩ : ∃ j, k' = j + 1 := ⟨k' - 1, by omega⟩
    obtain ⟨ih1, ih2, ih3, ih4⟩ := ih j (by omega)
    refine ⟨?_, ?_, ?_, ?_⟩
    · intro t h
      cases h with
      | direct _ _ hm => exact .direct _ _ hm
      | expand _ _ n o r h1 h3 => exact .expand _ _ n o r h1 (ih1 _ h3)
      | rewrite _ _ R rw h1 h2 h3 => exact .rewrite _ _ R rw h1 h2 (ih2 _ _ h3)
    · intro ch t h
      cases h with
      | computed _ _ rel h1 => exact .computed _ _ rel (ih1 _ h1)
      | ttu _ _ rel crel n o r h1 h2 => exact .ttu _ _ rel crel n o r h1 (ih1 _ h2)
      | or _ _ cs ch hm h1 => exact .or _ _ cs ch hm (ih2 _ _ h1)
      | and _ _ cs hne hall => exact .and _ _ cs hne (fun ch hm => ih2 _ _ (hall ch hm))
      | invert _ _ ch h1 => exact .invert _ _ ch (ih4 _ _ _ h1)
    · intro A t h
      cases h with
      | cut _ _ _ hin => exact .cut _ _ _ hin
      | node _ _ _ hnin hnT hnb hexp hrw =>
        exact .node _ _ _ hnin hnT hnb (fun n o r hm => ih3 _ _ (hexp n o r hm))
          (fun R rw h1 h2 => ih4 _ _ _ (hrw R rw h1 h2))
    · intro A ch t h
      cases h with
      | computed _ _ _ rel h1 => exact .computed _ _ _ rel (ih3 _ _ h1)
      | ttu _ _ _ rel crel hall => exact .ttu _ _ _ rel crel (fun n o r hm => ih3 _ _ (hall n o r hm))
      | or _ _ _ cs hall => exact .or _ _ _ cs (fun ch hm => ih4 _ _ _ (hall ch hm))
      | andNil _ _ _ => exact .andNil _ _ _
      | and _ _ _ cs ch hm h1 => exact .and _ _ _ cs ch hm (ih4 _ _ _ h1)
      | invert _ _ _ ch h1 => exact .invert _ _ _ ch (ih2 _ _ h1)

theorem TrN.mono_k {k k' : Nat} {t : Tuple} (h : TrN c T k t) (hk : k ≤ k') : TrN c T k' t :=
  (strat_mono _ _ hk).1 _ h

theorem HTrN.mono_k {k k' : Nat} {ch : Child} {t : Tuple} (h : HTrN c T k ch t) (hk : k ≤ k') :
    HTrN c T k' ch t :=
  (strat_mono _ _ hk).2.1 _ _ h

theorem FaN.mono_k {k k' : Nat} {A : List VKey} {t : Tuple} (h : FaN c T k A t) (hk : k ≤ k') :
    FaN c T k' A t :=
  (strat_mono _ _ hk).2.2.1 _ _ h

theorem HFaN.mono_k {k k' : Nat} {A : List VKey} {ch : Child} {t : Tuple} (h : HFaN c T k A ch t)
    (hk : k ≤ k') : HFaN c T k' A ch t :=
  (strat_mono _ _ hk).2.2.2 _ _ _ h

/-- The judgements of Keto/Spec/Stratified.lean at some height, as `Tr c T t` is `∃ k, TrN c T k t` there
    (and `Fa c T t` is `FaA c T [] t`).  Their rules below carry no heights: a rule with many premises
    chooses the common height, once. -/
def HTr (c : Cfg) (T : List Tuple) (ch : Child) (t : Tuple) : Prop := ∃ k, HTrN c T k ch t

def FaA (c : Cfg) (T : List Tuple) (A : List VKey) (t : Tuple) : Prop := ∃ k, FaN c T k A t

def HFaA (c : Cfg) (T : List Tuple) (A : List VKey) (ch : Child) (t : Tuple) : Prop := ∃ k, HFaN c T k A ch t

section
variable {t : Tuple} {A : List VKey} {cs : List Child} {ch : Child} {rel crel n r : String} {o : Nat}
  {R : Relation} {rw : Rewrite}

theorem Tr.direct (h : t ∈ T) : Tr c T t := ⟨1, .direct 0 t h⟩

theorem Tr.expand (h : (⟨t.ns, t.obj, t.rel, .set n o r⟩ : Tuple) ∈ T) : Tr c T ⟨n, o, r, t.sub⟩ → Tr c T t :=
  fun ⟨k, hk⟩ => ⟨k + 1, .expand k t n o r h hk⟩

theorem Tr.rewrite (hR : astRelationFor c t.ns t.rel = .rel R) (hrw : R.rewrite = some rw) :
    HTr c T (.rewrite rw.op rw.children) t → Tr c T t :=
  fun ⟨k, hk⟩ => ⟨k + 1, .rewrite k t R rw hR hrw hk⟩

theorem HTr.computed : Tr c T { t with rel := rel } → HTr c T (.computed rel) t :=
  fun ⟨k, hk⟩ => ⟨k + 1, .computed k t rel hk⟩

theorem HTr.ttu (h : (⟨t.ns, t.obj, rel, .set n o r⟩ : Tuple) ∈ T) :
    Tr c T ⟨n, o, crel, t.sub⟩ → HTr c T (.ttu rel crel) t :=
  fun ⟨k, hk⟩ => ⟨k + 1, .ttu k t rel crel n o r h hk⟩

theorem HTr.or (hm : ch ∈ cs) : HTr c T ch t → HTr c T (.rewrite .or cs) t :=
  fun ⟨k, hk⟩ => ⟨k + 1, .or k t cs ch hm hk⟩

theorem HTr.and (hne : cs ≠ []) (h : ∀ ch, ch ∈ cs → HTr c T ch t) : HTr c T (.rewrite .and cs) t := by
  obtain ⟨K, hK⟩ := common_height (fun K ch => HTrN c T K ch t) (fun _ _ _ hk hf => hf.mono_k hk) cs h
  exact ⟨K + 1, .and K t cs hne hK⟩

theorem HTr.invert : HFaA c T [] ch t → HTr c T (.invert ch) t :=
  fun ⟨k, hk⟩ => ⟨k + 1, .invert k t ch hk⟩

theorem FaA.cut (h : nodeKey t ∈ A) : FaA c T A t := ⟨1, .cut 0 A t h⟩

theorem FaA.node (hnin : nodeKey t ∉ A) (hnT : t ∉ T) (hnb : astRelationFor c t.ns t.rel ≠ .bad)
    (hexp : ∀ n o r, (⟨t.ns, t.obj, t.rel, .set n o r⟩ : Tuple) ∈ T → FaA c T (nodeKey t :: A) ⟨n, o, r, t.sub⟩)
    (hrw : ∀ R rw, astRelationFor c t.ns t.rel = .rel R → R.rewrite = some rw →
      HFaA c T (nodeKey t :: A) (.rewrite rw.op rw.children) t) : FaA c T A t := by
  obtain ⟨K1, hK1⟩ := common_height
    (fun K (s : VKey) => FaN c T K (nodeKey t :: A) ⟨s.1, s.2.1, s.2.2, t.sub⟩) (fun _ _ _ hk hf => hf.mono_k hk)
    (subjectSetsOf T t.ns t.obj t.rel) (fun s hs => hexp s.1 s.2.1 s.2.2 (mem_subjectSetsOf.1 hs))
  obtain ⟨K2, hK2⟩ := rewrite_height (P := fun K _ rw => HFaN c T K (nodeKey t :: A) (.rewrite rw.op rw.children) t)
    (astRelationFor c t.ns t.rel) hrw
  exact ⟨max K1 K2 + 1, .node _ A t hnin hnT hnb
    (fun n o r hm => (hK1 (n, o, r) (mem_subjectSetsOf.2 hm)).mono_k (Nat.le_max_left ..))
    (fun R rw h1 h2 => (hK2 R rw h1 h2).mono_k (Nat.le_max_right ..))⟩

theorem HFaA.computed : FaA c T A { t with rel := rel } → HFaA c T A (.computed rel) t :=
  fun ⟨k, hk⟩ => ⟨k + 1, .computed k A t rel hk⟩

theorem HFaA.ttu (h : ∀ n o r, (⟨t.ns, t.obj, rel, .set n o r⟩ : Tuple) ∈ T → FaA c T A ⟨n, o, crel, t.sub⟩) :
    HFaA c T A (.ttu rel crel) t := by
  obtain ⟨K, hK⟩ := common_height (fun K (s : VKey) => FaN c T K A ⟨s.1, s.2.1, crel, t.sub⟩)
    (fun _ _ _ hk hf => hf.mono_k hk) (subjectSetsOf T t.ns t.obj rel)
    (fun s hs => h s.1 s.2.1 s.2.2 (mem_subjectSetsOf.1 hs))
  exact ⟨K + 1, .ttu K A t rel crel (fun n o r hm => hK (n, o, r) (mem_subjectSetsOf.2 hm))⟩

theorem HFaA.or (h : ∀ ch, ch ∈ cs → HFaA c T A ch t) : HFaA c T A (.rewrite .or cs) t := by
  obtain ⟨K, hK⟩ := common_height (fun K ch => HFaN c T K A ch t) (fun _ _ _ hk hf => hf.mono_k hk) cs h
  exact ⟨K + 1, .or K A t cs hK⟩

theorem HFaA.andNil : HFaA c T A (.rewrite .and []) t := ⟨1, .andNil 0 A t⟩

theorem HFaA.and (hm : ch ∈ cs) : HFaA c T A ch t → HFaA c T A (.rewrite .and cs) t :=
  fun ⟨k, hk⟩ => ⟨k + 1, .and k A t cs ch hm hk⟩

theorem HFaA.invert : HTr c T ch t → HFaA c T A (.invert ch) t :=
  fun ⟨k, hk⟩ => ⟨k + 1, .invert k A t ch hk⟩

end

/-- Some node of `A`, with subject `sub`, is a member by a derivation not higher than `k`. -/
def MemberAmong (c : Cfg) (T : List Tuple) (A : List VKey) (k : Nat) (sub : Subject) : Prop :=
  ∃ s, s ∈ A ∧ ∃ j, j ≤ k ∧ TrN c T j ⟨s.1, s.2.1, s.2.2, sub⟩

theorem MemberAmong.lift {A : List VKey} {k k' : Nat} {sub : Subject} (h : MemberAmong c T A k sub)
    (hk : k ≤ k') : MemberAmong c T A k' sub := by
  obtain ⟨s, hs, j, hj, htr⟩ := h
  exact ⟨s, hs, j, Nat.le_trans hj hk, htr⟩

/-- A membership derivation against a refutation under assumptions `A`: one of the assumptions is
    wrong, by a derivation not higher than the given one.  That bound lets the induction on `k₁ + k₂` go on
    when the wrong assumption is the node itself (`back`); `invert` swaps the two heights. -/
theorem trN_faN_memberAmong : ∀ (N k₁ k₂ : Nat), k₁ + k₂ ≤ N →
    (∀ A t, TrN c T k₁ t → FaN c T k₂ A t → MemberAmong c T A k₁ t.sub) ∧
    (∀ A ch t, HTrN c T k₁ ch t → HFaN c T k₂ A ch t → MemberAmong c T A k₁ t.sub) := by
  intro N
  induction N with
  | zero =>
    intro k₁ k₂ hle
    have h0 : k₁ = 0 := by omega
    subst h0
    constructor
    · intro A t h; cases h
    · intro A ch t h; cases h
  | succ N ih =>
    intro k₁ k₂ hle
    constructor
    · intro A t h1 h2
      have h2c := h2
      cases h2 with
      | cut k2 _ _ hin =>
        exact ⟨nodeKey t, hin, k₁, Nat.le_refl _, h1⟩
      | node k2 _ _ hnin hnT hnb hexp hrw =>
        -- what to do with a wrong assumption found below the node
        have back : ∀ k1', k1' + 1 = k₁ → MemberAmong c T (nodeKey t :: A) k1' t.sub →
            MemberAmong c T A k₁ t.sub := by
          rintro k1' hk1 ⟨s, hs, j, hj, htr⟩
          cases hs with
          | head => exact ((ih j (k2 + 1) (by omega)).1 A t htr h2c).lift (by omega)
          | tail _ hs' => exact ⟨s, hs', j, by omega, htr⟩
        cases h1 with
        | direct _ _ hm => exact absurd hm hnT
        | expand k1 _ n o r hm hsub =>
          exact back k1 rfl ((ih k1 k2 (by omega)).1 _ ⟨n, o, r, t.sub⟩ hsub (hexp n o r hm))
        | rewrite k1 _ R rw hR hrwe hh =>
          exact back k1 rfl ((ih k1 k2 (by omega)).2 _ _ t hh (hrw R rw hR hrwe))
    · intro A ch t h1 h2
      cases h1 with
      | computed k1 _ rel h1' =>
        cases h2 with
        | computed k2 _ _ _ h2' =>
          exact MemberAmong.lift ((ih k1 k2 (by omega)).1 A { t with rel := rel } h1' h2') (Nat.le_succ _)
      | ttu k1 _ rel crel n o r hm h1' =>
        cases h2 with
        | ttu k2 _ _ _ _ hall =>
          exact MemberAmong.lift ((ih k1 k2 (by omega)).1 A ⟨n, o, crel, t.sub⟩ h1' (hall n o r hm)) (Nat.le_succ _)
      | or k1 _ cs ch' hm h1' =>
        cases h2 with
        | or k2 _ _ _ hall =>
          exact MemberAmong.lift ((ih k1 k2 (by omega)).2 A _ t h1' (hall ch' hm)) (Nat.le_succ _)
      | and k1 _ cs hne hall =>
        cases h2 with
        | andNil k2 _ _ => exact absurd rfl hne
        | and k2 _ _ _ ch' hm h2' =>
          exact MemberAmong.lift ((ih k1 k2 (by omega)).2 A _ t (hall ch' hm) h2') (Nat.le_succ _)
      | invert k1 _ ch' h1' =>
        cases h2 with
        | invert k2 _ _ _ h2' =>
          obtain ⟨s, hs, _⟩ := (ih k2 k1 (by omega)).2 [] _ _ h2' h1'
          cases hs

theorem trN_faN_exclusive {k₁ k₂ : Nat} {t : Tuple} (h1 : TrN c T k₁ t) (h2 : FaN c T k₂ [] t) :
    False := by
  obtain ⟨s, hs, _⟩ := (trN_faN_memberAmong (k₁ + k₂) k₁ k₂ (Nat.le_refl _)).1 [] t h1 h2
  cases hs

theorem Tr.not_fa {t : Tuple} : Tr c T t → Fa c T t → False :=
  fun ⟨_, h1⟩ ⟨_, h2⟩ => trN_faN_exclusive h1 h2

theorem htrN_hfaN_exclusive {k₁ k₂ : Nat} {ch : Child} {t : Tuple} (h1 : HTrN c T k₁ ch t)
    (h2 : HFaN c T k₂ [] ch t) : False := by
  obtain ⟨s, hs, _⟩ := (trN_faN_memberAmong (k₁ + k₂) k₁ k₂ (Nat.le_refl _)).2 [] ch t h1 h2
  cases hs

theorem kAny_eq_t {xs : List RV} : kAny xs = .t → RV.t ∈ xs := by
  fun_induction kAny xs with
  | case1 => intro h; cases h
  | case2 => exact fun _ => List.mem_cons_self ..
  | case3 xs ih => exact fun h => List.mem_cons_of_mem _ (ih h)
  | case4 xs hk ih => exact fun _ => List.mem_cons_of_mem _ (ih hk)
  | case5 => intro h; cases h

theorem kAny_eq_f {xs : List RV} : kAny xs = .f → ∀ x, x ∈ xs → x = .f := by
  fun_induction kAny xs with
  | case1 => exact fun _ x hx => nomatch hx
  | case3 xs ih => exact fun h x hx => (List.mem_cons.1 hx).elim (fun e => e) (ih h x)
  | _ => intro h; cases h

theorem kAll_eq_t {xs : List RV} : kAll xs = .t → ∀ x, x ∈ xs → x = .t := by
  fun_induction kAll xs with
  | case1 => exact fun _ x hx => nomatch hx
  | case3 xs ih => exact fun h x hx => (List.mem_cons.1 hx).elim (fun e => e) (ih h x)
  | _ => intro h; cases h

theorem kAll_eq_f {xs : List RV} : kAll xs = .f → RV.f ∈ xs := by
  fun_induction kAll xs with
  | case1 => intro h; cases h
  | case2 => exact fun _ => List.mem_cons_self ..
  | case3 xs ih => exact fun h => List.mem_cons_of_mem _ (ih h)
  | case4 xs hk ih => exact fun _ => List.mem_cons_of_mem _ (ih hk)
  | case5 => intro h; cases h

theorem levelKeys_cons_same (key : VKey) (nl : Nat) (path : List (VKey × Nat)) :
    levelKeys ((key, nl) :: path) nl = key :: levelKeys path nl := by
  simp [levelKeys]

theorem levelKeys_succ_nil {path : List (VKey × Nat)} {nl : Nat} (h : ∀ p, p ∈ path → p.2 ≤ nl) :
    levelKeys path (nl + 1) = [] := by
  unfold levelKeys
  rw [List.map_eq_nil_iff, List.filter_eq_nil_iff]
  intro p hp hb
  have h1 := h p hp
  have h2 : p.2 = nl + 1 := by simpa using hb
  omega

/-- What a `t` answer of a reference call claims. -/
def RefCall.TSpec (c : Cfg) (T : List Tuple) : RefCall → Prop
  | .node t => Tr c T t
  | .child t ch => HTr c T ch t

/-- What an `f` answer of a reference call evaluated under the positive path `A` claims. -/
def RefCall.FSpec (c : Cfg) (T : List Tuple) (A : List VKey) : RefCall → Prop
  | .node t => FaA c T A t
  | .child t ch => HFaA c T A ch t

theorem RV.not_eq_t : ∀ {x : RV}, x.not = .t → x = .f
  | .f, _ => rfl

theorem RV.not_eq_f : ∀ {x : RV}, x.not = .f → x = .t
  | .t, _ => rfl

/-- The hypothesis is the invariant of a run: entries are pushed at the current level and `invert` raises
    it.  It empties the positive path right after a negation (`levelKeys_succ_nil`). -/
theorem refEval_spec (fuel : Nat) (path : List (VKey × Nat)) (nl : Nat) (call : RefCall) :
    (∀ p, p ∈ path → p.2 ≤ nl) →
    (refEval c T fuel path nl call = .t → RefCall.TSpec c T call) ∧
    (refEval c T fuel path nl call = .f → RefCall.FSpec c T (levelKeys path nl) call) := by
  fun_induction refEval c T fuel path nl call with
  | case1 => exact fun _ => ⟨fun h => (nomatch h), fun h => (nomatch h)⟩  -- no fuel: `bad`
  | case2 fuel path nl t key p hfind hlv =>  -- on the path, entered at this level: cut
    refine fun _ => ⟨fun h => (nomatch h), fun _ => FaA.cut (List.mem_map.2
      ⟨p, List.mem_filter.2 ⟨List.mem_of_find?_eq_some hfind, hlv⟩, ?_⟩)⟩
    simpa using List.find?_some hfind
  | case3 => exact fun _ => ⟨fun h => (nomatch h), fun h => (nomatch h)⟩  -- on the path from a lower level: `bad`
  | case4 fuel path nl t key hfind path' direct exps rw ihexp ihrw =>
    intro hinv
    have hinv' : ∀ p, p ∈ path' → p.2 ≤ nl := fun p hp =>
      (List.mem_cons.1 hp).elim (fun e => e ▸ Nat.le_refl _) (hinv p)
    constructor
    · intro h
      rcases List.mem_cons.1 (kAny_eq_t h) with hd | hm
      · simp only [direct] at hd
        split at hd
        · next hcont => exact .direct (List.contains_iff_mem.1 hcont)
        · cases hd
      rcases List.mem_cons.1 hm with hrw | hex
      · simp only [rw] at hrw
        split at hrw
        · cases hrw
        · cases hrw
        · next R hR =>
          split at hrw
          · cases hrw
          · next rw' hrwe => exact .rewrite hR hrwe ((ihrw rw' hinv').1 hrw.symm)
      · obtain ⟨⟨n, o, r⟩, hs, he⟩ := List.mem_map.1 hex
        exact .expand (mem_subjectSetsOf.1 hs) ((ihexp (n, o, r) hinv').1 he)
    · intro h
      have hall := kAny_eq_f h
      have hin := hall _ (List.mem_cons_of_mem _ (List.mem_cons_self ..))
      simp only [rw] at hin
      refine .node ?_ ?_ ?_ (fun n o r hm => ?_) (fun R rw' hL hR => ?_)
      · intro hin
        obtain ⟨p, hp, hk⟩ := List.mem_map.1 hin
        exact List.find?_eq_none.1 hfind p (List.mem_filter.1 hp).1 (by simpa using hk)
      · intro hm
        have := hall _ (List.mem_cons_self ..)
        simp only [direct] at this
        rw [if_pos (List.contains_iff_mem.2 hm)] at this
        cases this
      · intro hb
        simp only [hb] at hin
        cases hin
      · have := (ihexp (n, o, r) hinv').2 (hall _ (List.mem_cons_of_mem _
          (List.mem_cons_of_mem _ (List.mem_map.2 ⟨(n, o, r), mem_subjectSetsOf.2 hm, rfl⟩))))
        rwa [levelKeys_cons_same] at this
      · simp only [hL, hR] at hin
        have := (ihrw rw' hinv').2 hin
        rwa [levelKeys_cons_same] at this
  | case5 fuel path nl t rel ih =>
    exact fun hinv => ⟨fun h => .computed ((ih hinv).1 h), fun h => .computed ((ih hinv).2 h)⟩
  | case6 fuel path nl t rel crel ih =>
    refine fun hinv => ⟨fun h => ?_, fun h => .ttu fun n o r hm =>
      (ih (n, o, r) hinv).2 (kAny_eq_f h _ (List.mem_map.2 ⟨(n, o, r), mem_subjectSetsOf.2 hm, rfl⟩))⟩
    obtain ⟨⟨n, o, r⟩, hs, he⟩ := List.mem_map.1 (kAny_eq_t h)
    exact .ttu (mem_subjectSetsOf.1 hs) ((ih (n, o, r) hinv).1 he)
  | case7 fuel path nl t cs ih =>
    refine fun hinv => ⟨fun h => ?_, fun h => .or fun ch' hm =>
      (ih ch' hinv).2 (kAny_eq_f h _ (List.mem_map.2 ⟨ch', hm, rfl⟩))⟩
    obtain ⟨ch', hm, he⟩ := List.mem_map.1 (kAny_eq_t h)
    exact .or hm ((ih ch' hinv).1 he)
  | case8 fuel path nl t cs hemp =>
    cases List.isEmpty_iff.1 hemp
    exact fun _ => ⟨fun h => (nomatch h), fun _ => HFaA.andNil⟩
  | case9 fuel path nl t cs hne ih =>
    refine fun hinv => ⟨fun h => .and (fun hnil => hne (by rw [hnil]; rfl)) fun ch' hm =>
      (ih ch' hinv).1 (kAll_eq_t h _ (List.mem_map.2 ⟨ch', hm, rfl⟩)), fun h => ?_⟩
    obtain ⟨ch', hm, he⟩ := List.mem_map.1 (kAll_eq_f h)
    exact .and hm ((ih ch' hinv).2 he)
  | case10 fuel path nl t ch' ih =>
    intro hinv
    have ih' := ih fun p hp => Nat.le_succ_of_le (hinv p hp)
    rw [levelKeys_succ_nil hinv] at ih'
    exact ⟨fun h => .invert (ih'.2 (RV.not_eq_t h)), fun h => .invert (ih'.1 (RV.not_eq_f h))⟩

theorem refEval_t_iff_tr {fuel : Nat} {q : Tuple} (hnb : refEval c T fuel [] 0 (.node q) ≠ .bad) :
    refEval c T fuel [] 0 (.node q) = .t ↔ Tr c T q := by
  have hs := refEval_spec (c := c) (T := T) fuel [] 0 (.node q) (fun _ hp => nomatch hp)
  refine ⟨hs.1, fun htr => ?_⟩
  cases e : refEval c T fuel [] 0 (.node q) with
  | t => rfl
  | f => exact (htr.not_fa (hs.2 e)).elim
  | bad => exact absurd e hnb

theorem tr_of_mem {t : Tuple} (h : Mem c T t) : Tr c T t :=
  Mem.rec (motive_1 := fun t _ => Tr c T t) (motive_2 := fun ch t _ => HTr c T ch t)
    (fun _ hm => .direct hm) (fun _ _ _ _ h1 _ ih => .expand h1 ih) (fun _ _ _ h1 h2 _ ih => .rewrite h1 h2 ih)
    (fun _ _ _ ih => .computed ih) (fun _ _ _ _ _ _ h1 _ ih => .ttu h1 ih) (fun _ _ _ hm _ ih => .or hm ih)
    (fun _ _ hne _ ih => .and hne ih) h

theorem mem_of_trN (hc : Cfg.pos c) : ∀ k,
    (∀ t, TrN c T k t → Mem c T t) ∧
    (∀ ch t, Child.pos ch = true → HTrN c T k ch t → Holds c T ch t) := by
  intro k
  induction k with
  | zero =>
    constructor
    · intro t h; cases h
    · intro ch t _ h; cases h
  | succ k ih =>
    constructor
    · intro t h
      cases h with
      | direct _ _ hm => exact .direct _ hm
      | expand _ _ n o r h1 h3 => exact .expand _ n o r h1 (ih.1 _ h3)
      | rewrite _ _ R rw h1 h2 h3 => exact .rewrite _ R rw h1 h2 (ih.2 _ _ (hc _ _ R rw h1 h2) h3)
    · intro ch t hp h
      cases h with
      | computed _ _ rel h1 => exact .computed _ rel (ih.1 _ h1)
      | ttu _ _ rel crel n o r h1 h2 => exact .ttu _ rel crel n o r h1 (ih.1 _ h2)
      | or _ _ cs ch hm h1 =>
        have hpos : Child.posList cs = true := hp
        exact .or _ cs ch hm (ih.2 _ _ (posList_mem hpos hm) h1)
      | and _ _ cs hne hall =>
        have hpos : Child.posList cs = true := hp
        exact .and _ cs hne (fun ch hm => ih.2 _ _ (posList_mem hpos hm) (hall ch hm))
      | invert _ _ ch _ => cases hp

namespace C01negex

/-- `p = !p`: not stratified. -/
def cfgP : Cfg := [⟨"x", [⟨"p", [], some ⟨.and, [.invert (.computed "p")]⟩⟩]⟩]

theorem cfgP_lookup : astRelationFor cfgP "x" "p" =
    .rel ⟨"p", [], some ⟨.and, [.invert (.computed "p")]⟩⟩ := by
  simp [astRelationFor, findNs, findRel, cfgP]

/-- With `p = !p` a derivation of membership contains a refutation and vice versa. -/
theorem cfgP_tr_iff_fa (o : Nat) (sub : Subject) :
    Tr cfgP [] ⟨"x", o, "p", sub⟩ ↔ Fa cfgP [] ⟨"x", o, "p", sub⟩ := by
  constructor
  · intro ⟨k, h⟩
    cases h with
    | direct _ _ hm => cases hm
    | expand _ _ n o r hm _ => cases hm
    | rewrite k' _ R rw hR hrwe hh =>
      have hR' : astRelationFor cfgP "x" "p" = .rel R := hR
      rw [cfgP_lookup] at hR'
      cases hR'
      cases hrwe
      cases hh with
      | and k2 _ _ _ hall =>
        have h1 := hall _ (List.mem_cons_self ..)
        cases h1 with
        | invert k3 _ _ h2 =>
          cases h2 with
          | computed k4 _ _ _ h3 => exact ⟨k4, h3⟩
  · intro ⟨k, h⟩
    cases h with
    | cut _ _ _ hin => cases hin
    | node k' _ _ _ _ _ _ hrw =>
      have h1 := hrw _ _ cfgP_lookup rfl
      cases h1 with
      | and k2 _ _ _ ch hm hch =>
        cases hm with
        | head =>
          cases hch with
          | invert k3 _ _ _ h2 =>
            cases h2 with
            | computed k4 _ _ h3 => exact ⟨k4, h3⟩
        | tail _ hm' => cases hm'

end C01negex

end Keto
