/-
  Lemmas for C19 over the watcher models Keto/Model/Watcher.lean.

  Legacy watcher: seen at one path, an event does what `sinceStep` does (`lvisible_lstep`, for a map that holds
  every path once), so a history is the fold `lastValidSinceRemove`, which without removes is `lastValid`.
  OPL watcher: the file table evolves without regard to parsing (`filesStep`, `ostep_eq`) and the visible set is
  the last complete parse (`lastAllValidFrom`, a chain of `Option.or` like `lastValid`); `OInv` says where every
  visible entry comes from.
-/
import Keto.Model.Watcher

namespace Keto.W

theorem get_put_same {α} (k : String) (v : α) (l : List (String × α)) :
    get k (put k v l) = some v := by
  fun_induction put k v l <;> simp_all [get]

theorem get_put_other {α} {k k2 : String} (v : α) (l : List (String × α)) (h : k ≠ k2) :
    get k2 (put k v l) = get k2 l := by
  fun_induction put k v l <;> simp_all [get]

theorem mem_put {α} {k : String} {v : α} {l : List (String × α)} {x : String × α}
    (h : x ∈ put k v l) : x = (k, v) ∨ x ∈ l := by
  fun_induction put k v l with
  | case1 => exact .inl (List.mem_singleton.mp h)
  | case2 k' v' rest hk => exact (List.mem_cons.mp h).imp_right (List.mem_cons_of_mem _)
  | case3 k' v' rest hk ih =>
    rcases List.mem_cons.mp h with h | h
    · exact .inr (h ▸ List.mem_cons_self)
    · exact (ih h).imp_right (List.mem_cons_of_mem _)

theorem del_sublist {α} (k : String) (l : List (String × α)) : (del k l).Sublist l := by
  fun_induction del k l with
  | case1 => exact .slnil
  | case2 k' v' rest hk => exact .cons _ (.refl _)
  | case3 k' v' rest hk ih => exact .cons_cons _ ih

def keys {α} (l : List (String × α)) : List String := l.map (·.1)

theorem keys_nodup_put {α} (k : String) (v : α) (l : List (String × α)) (h : (keys l).Nodup) :
    (keys (put k v l)).Nodup := by
  fun_induction put k v l with
  | case1 => exact List.nodup_cons.mpr ⟨List.not_mem_nil, .nil⟩
  | case2 k' v' rest hk => exact beq_iff_eq.mp hk ▸ h
  | case3 k' v' rest hk ih =>
    obtain ⟨h1, h2⟩ := List.nodup_cons.mp h
    refine List.nodup_cons.mpr ⟨fun hm => ?_, ih h2⟩
    obtain ⟨x, hx, rfl⟩ := List.mem_map.mp hm
    rcases mem_put hx with rfl | hx
    · exact hk (beq_self_eq_true _)
    · exact h1 (List.mem_map.mpr ⟨x, hx, rfl⟩)

theorem keys_nodup_del {α} (k : String) (l : List (String × α)) (h : (keys l).Nodup) :
    (keys (del k l)).Nodup :=
  h.sublist ((del_sublist k l).map _)

theorem get_eq_none_of_not_mem_keys {α} {k : String} {l : List (String × α)} (h : k ∉ keys l) :
    get k l = none := by
  fun_induction get k l with
  | case1 => rfl
  | case2 k' v' rest hk => exact absurd (beq_iff_eq.mp hk ▸ List.mem_cons_self) h
  | case3 k' v' rest hk ih => exact ih fun hm => h (List.mem_cons_of_mem _ hm)

/-- Looking up a deleted key finds nothing — provided keys are unique (`del` removes the first entry). -/
theorem get_del_same {α} (k : String) (l : List (String × α)) (h : (keys l).Nodup) :
    get k (del k l) = none := by
  fun_induction del k l with
  | case1 => rfl
  | case2 k' v' rest hk =>
    exact get_eq_none_of_not_mem_keys (beq_iff_eq.mp hk ▸ (List.nodup_cons.mp h).1)
  | case3 k' v' rest hk ih => simp_all [get, keys]

theorem get_del_other {α} {k k2 : String} (l : List (String × α)) (h : k ≠ k2) :
    get k2 (del k l) = get k2 l := by
  fun_induction del k l <;> simp_all [get]

theorem lrun_snoc (parse : Parse) (es : List Ev) (e : Ev) :
    lrun parse (es ++ [e]) = lstep parse (lrun parse es) e := by
  simp [lrun, List.foldl_append]

theorem orun_snoc (parse : Parse) (es : List Ev) (e : Ev) :
    orun parse (es ++ [e]) = ostep parse (orun parse es) e := by
  simp [orun, List.foldl_append]

/-- What one event contributes to `lastValid` of path `p`. -/
def evValid (parse : Parse) (p : String) : Ev → Option (List String)
  | .change p' c => if p' == p then parse c else none
  | .remove _ => none

theorem lastValid_cons (parse : Parse) (p : String) (e : Ev) (es : List Ev) :
    lastValid parse p (e :: es) = (lastValid parse p es).or (evValid parse p e) := by
  cases e <;> cases h : lastValid parse p es <;> simp [lastValid, evValid, h]

theorem lastValid_append (parse : Parse) (p : String) (es fs : List Ev) :
    lastValid parse p (es ++ fs) = (lastValid parse p fs).or (lastValid parse p es) := by
  induction es with
  | nil => simp [lastValid]
  | cons e es ih => rw [List.cons_append, lastValid_cons, lastValid_cons, ih, Option.or_assoc]

theorem lastValid_snoc (parse : Parse) (p : String) (es : List Ev) (e : Ev) :
    lastValid parse p (es ++ [e]) =
      match evValid parse p e with
      | some nss => some nss
      | none => lastValid parse p es := by
  rw [lastValid_append, lastValid_cons]
  cases evValid parse p e <;> rfl

theorem noRemove_append_left {es fs : List Ev} (h : noRemove (es ++ fs) = true) :
    noRemove es = true := by
  fun_induction noRemove es with
  | case1 => rfl
  | case2 => cases h
  | case3 q c es ih => exact ih h

theorem noRemove_of_changes {p : String} {es : List Ev} (h : ∀ e ∈ es, ∃ c, e = Ev.change p c) :
    noRemove es = true := by
  fun_induction noRemove es with
  | case1 => rfl
  | case2 q es => obtain ⟨c, hc⟩ := h _ List.mem_cons_self; cases hc
  | case3 q c es ih => exact ih fun e he => h e (List.mem_cons_of_mem _ he)

theorem sinceStep_change (parse : Parse) (p : String) (acc : Option (List String)) (q : String)
    (c : Content) : sinceStep parse p acc (.change q c) = (evValid parse p (.change q c)).or acc := by
  simp only [sinceStep, evValid]
  split
  · cases parse c <;> rfl
  · rfl

theorem since_foldl_noRemove (parse : Parse) (p : String) (acc : Option (List String)) (es : List Ev)
    (h : noRemove es = true) :
    es.foldl (sinceStep parse p) acc = (lastValid parse p es).or acc := by
  fun_induction noRemove es generalizing acc with
  | case1 => rfl
  | case2 => cases h
  | case3 q c es ih => rw [List.foldl_cons, ih _ h, sinceStep_change, lastValid_cons, Option.or_assoc]

theorem lstep_keys_nodup (parse : Parse) (s : LState) (e : Ev) (h : (keys s).Nodup) :
    (keys (lstep parse s e)).Nodup := by
  fun_cases lstep parse s e
  · exact keys_nodup_del _ s h
  all_goals exact keys_nodup_put _ _ _ h

/-- Unique keys are needed for a remove of `p` itself: `get_del_same`. -/
theorem lvisible_lstep (parse : Parse) (s : LState) (e : Ev) (p : String) (h : (keys s).Nodup) :
    lvisible (lstep parse s e) p = sinceStep parse p (lvisible s p) e := by
  cases e with
  | remove q =>
    by_cases hq : q = p
    · simp [lstep, lvisible, sinceStep, hq, get_del_same _ _ h]
    · simp [lstep, lvisible, sinceStep, hq, get_del_other _ hq]
  | change q c =>
    by_cases hq : q = p
    · subst hq
      cases hc : parse c <;> cases hg : get q s <;>
        simp [lstep, lvisible, sinceStep, hc, hg, get_put_same]
    · cases hc : parse c <;> cases hg : get q s <;>
        simp [lstep, lvisible, sinceStep, hc, hg, hq, get_put_other _ _ hq]

theorem lvisible_foldl_since (parse : Parse) (s : LState) (es : List Ev) (p : String)
    (h : (keys s).Nodup) :
    lvisible (es.foldl (lstep parse) s) p = es.foldl (sinceStep parse p) (lvisible s p) := by
  induction es generalizing s with
  | nil => rfl
  | cons e es ih =>
    rw [List.foldl_cons, List.foldl_cons, ih _ (lstep_keys_nodup parse s e h),
      lvisible_lstep parse s e p h]

theorem lastValidSinceRemove_snoc (parse : Parse) (p : String) (es : List Ev) (e : Ev) :
    lastValidSinceRemove parse p (es ++ [e]) = sinceStep parse p (lastValidSinceRemove parse p es) e := by
  simp [lastValidSinceRemove, List.foldl_append]

def filesStep (fs : List (String × Content)) : Ev → List (String × Content)
  | .change p c => put p c fs
  | .remove p => del p fs

def filesRun (fs : List (String × Content)) (es : List Ev) : List (String × Content) :=
  es.foldl filesStep fs

theorem mem_filesStep {fs : List (String × Content)} {e : Ev} {p : String} {c : Content}
    (h : (p, c) ∈ filesStep fs e) : e = .change p c ∨ (p, c) ∈ fs := by
  cases e with
  | change q d => exact (mem_put h).imp_left fun heq => by cases heq; rfl
  | remove q => exact .inr ((del_sublist q fs).subset h)

theorem filesStep_keys_nodup {fs : List (String × Content)} (e : Ev) (h : (keys fs).Nodup) :
    (keys (filesStep fs e)).Nodup := by
  cases e with
  | change q d => exact keys_nodup_put q d fs h
  | remove q => exact keys_nodup_del q fs h

theorem ostep_eq (parse : Parse) (s : OState) (e : Ev) :
    ostep parse s e =
      ⟨filesStep s.files e, (parseAll parse (filesStep s.files e)).getD s.visible⟩ := by
  cases e <;> simp only [ostep, filesStep] <;> split <;> simp [*]

theorem ostep_files (parse : Parse) (s : OState) (e : Ev) :
    (ostep parse s e).files = filesStep s.files e := by
  rw [ostep_eq]

theorem ostep_visible (parse : Parse) (s : OState) (e : Ev) :
    (ostep parse s e).visible = (parseAll parse (filesStep s.files e)).getD s.visible := by
  rw [ostep_eq]

theorem filesRun_append (fs : List (String × Content)) (es es' : List Ev) :
    filesRun fs (es ++ es') = filesRun (filesRun fs es) es' :=
  List.foldl_append

theorem orun_files_foldl (parse : Parse) (s : OState) (es : List Ev) :
    (es.foldl (ostep parse) s).files = filesRun s.files es := by
  induction es generalizing s with
  | nil => rfl
  | cons e es ih => rw [List.foldl_cons, ih, ostep_files]; rfl

theorem orun_files (parse : Parse) (es : List Ev) : (orun parse es).files = filesRun [] es :=
  orun_files_foldl parse {} es

/-- `parseAll` of the file table at the LAST non-empty prefix of the history (starting from table `fs`)
    at which every file parses; `none` if there is no such prefix. -/
def lastAllValidFrom (parse : Parse) (fs : List (String × Content)) :
    List Ev → Option (List (String × List String))
  | [] => none
  | e :: es =>
    match lastAllValidFrom parse (filesStep fs e) es with
    | some v => some v
    | none => parseAll parse (filesStep fs e)

/-- From the empty file table (the watcher's initial state). -/
def lastAllValid (parse : Parse) (es : List Ev) : Option (List (String × List String)) :=
  lastAllValidFrom parse [] es

theorem lastAllValidFrom_cons (parse : Parse) (fs : List (String × Content)) (e : Ev) (es : List Ev) :
    lastAllValidFrom parse fs (e :: es) =
      (lastAllValidFrom parse (filesStep fs e) es).or (parseAll parse (filesStep fs e)) := by
  cases h : lastAllValidFrom parse (filesStep fs e) es <;> simp [lastAllValidFrom, h]

theorem ovisible_foldl (parse : Parse) (s : OState) (es : List Ev) :
    (es.foldl (ostep parse) s).visible = (lastAllValidFrom parse s.files es).getD s.visible := by
  induction es generalizing s with
  | nil => rfl
  | cons e es ih => rw [List.foldl_cons, ih, ostep_files, ostep_visible, lastAllValidFrom_cons, Option.getD_or]

theorem lastAllValidFrom_append (parse : Parse) (fs : List (String × Content)) (pre suf : List Ev) :
    lastAllValidFrom parse fs (pre ++ suf) =
      (lastAllValidFrom parse (filesRun fs pre) suf).or (lastAllValidFrom parse fs pre) := by
  induction pre generalizing fs with
  | nil => exact (Option.or_none ..).symm
  | cons e pre ih =>
    rw [List.cons_append, lastAllValidFrom_cons, lastAllValidFrom_cons, ih, Option.or_assoc]
    rfl

theorem lastAllValidFrom_concat (parse : Parse) (fs : List (String × Content)) (pre : List Ev) (e : Ev) :
    lastAllValidFrom parse fs (pre ++ [e]) =
      (parseAll parse (filesRun fs (pre ++ [e]))).or (lastAllValidFrom parse fs pre) := by
  rw [lastAllValidFrom_append, filesRun_append]
  rfl

theorem lastAllValidFrom_eq_some {parse : Parse} {fs : List (String × Content)} {es : List Ev}
    {v : List (String × List String)} :
    lastAllValidFrom parse fs es = some v ↔
      ∃ pre suf, es = pre ++ suf ∧ pre ≠ [] ∧ parseAll parse (filesRun fs pre) = some v ∧
        lastAllValidFrom parse (filesRun fs pre) suf = none := by
  constructor
  · intro h
    fun_induction lastAllValidFrom parse fs es with
    | case1 => cases h
    | case2 fs e es w hrec ih =>
      obtain ⟨pre, suf, rfl, -, hp, hn⟩ := ih (hrec.trans h)
      exact ⟨e :: pre, suf, rfl, List.cons_ne_nil e pre, hp, hn⟩
    | case3 fs e es hrec ih => exact ⟨[e], es, rfl, List.cons_ne_nil e [], h, hrec⟩
  · rintro ⟨pre, suf, rfl, hne, hp, hn⟩
    obtain ⟨pre, e, rfl⟩ := (List.eq_nil_or_concat pre).resolve_left hne
    rw [List.concat_eq_append] at hp hn ⊢
    rw [lastAllValidFrom_append, hn, Option.none_or, lastAllValidFrom_concat, hp]
    rfl

theorem lastAllValidFrom_eq_none {parse : Parse} {fs : List (String × Content)} {es : List Ev} :
    lastAllValidFrom parse fs es = none ↔
      ∀ pre, pre <+: es → pre ≠ [] → parseAll parse (filesRun fs pre) = none := by
  constructor
  · rintro h pre ⟨suf, rfl⟩ hne
    obtain ⟨pre, e, rfl⟩ := (List.eq_nil_or_concat pre).resolve_left hne
    rw [List.concat_eq_append] at h ⊢
    rw [lastAllValidFrom_append, Option.or_eq_none_iff, lastAllValidFrom_concat,
      Option.or_eq_none_iff] at h
    exact h.2.1
  · intro h
    cases hv : lastAllValidFrom parse fs es with
    | none => rfl
    | some v =>
      obtain ⟨pre, suf, rfl, hne, hp, -⟩ := lastAllValidFrom_eq_some.mp hv
      cases (h pre ⟨suf, rfl⟩ hne).symm.trans hp

theorem parseAll_keys {parse : Parse} {fs : List (String × Content)}
    {vis : List (String × List String)} (h : parseAll parse fs = some vis) : keys vis = keys fs := by
  fun_induction parseAll parse fs generalizing vis with
  | case1 => cases h; rfl
  | case2 p c rest nss more hmore _ ih => cases h; exact congrArg (p :: ·) (ih hmore)
  | case3 => cases h

theorem parseAll_mem {parse : Parse} {fs : List (String × Content)}
    {vis : List (String × List String)} (h : parseAll parse fs = some vis)
    {p : String} {nss : List String} (hm : (p, nss) ∈ vis) :
    ∃ c, (p, c) ∈ fs ∧ parse c = some nss := by
  fun_induction parseAll parse fs generalizing vis with
  | case1 => cases h; cases hm
  | case2 p' c' rest nss' more hmore hparse ih =>
    cases h
    rcases List.mem_cons.mp hm with heq | hm'
    · cases heq
      exact ⟨c', List.mem_cons_self, hparse⟩
    · obtain ⟨c, hc, hpc⟩ := ih hmore hm'
      exact ⟨c, List.mem_cons_of_mem _ hc, hpc⟩
  | case3 => cases h

theorem parseAll_get {parse : Parse} {fs : List (String × Content)}
    {vis : List (String × List String)} (h : parseAll parse fs = some vis) (p : String) :
    get p vis = (get p fs).bind parse := by
  fun_induction parseAll parse fs generalizing vis with
  | case1 => cases h; rfl
  | case2 p' c' rest nss' more hmore hparse ih =>
    cases h
    by_cases hp : p' = p
    · simp [get, hp, hparse]
    · simp [get, hp, ih hmore]
  | case3 => cases h

/-- Invariant for `C19_opl_never_partial`: every file in the table holds a content written to it in the
    history so far, every visible entry is the parse of such a content. -/
structure OInv (parse : Parse) (hist : List Ev) (s : OState) : Prop where
  files : ∀ p c, (p, c) ∈ s.files → Ev.change p c ∈ hist
  visible : ∀ p nss, (p, nss) ∈ s.visible → ∃ c, parse c = some nss ∧ Ev.change p c ∈ hist
  filesNodup : (keys s.files).Nodup
  visibleNodup : (keys s.visible).Nodup

theorem OInv_step {parse : Parse} {hist : List Ev} {s : OState} (h : OInv parse hist s) (e : Ev) :
    OInv parse (hist ++ [e]) (ostep parse s e) := by
  have hfiles : ∀ p c, (p, c) ∈ filesStep s.files e → Ev.change p c ∈ hist ++ [e] := fun p c hm =>
    (mem_filesStep hm).elim (fun he => he ▸ List.mem_append_right _ List.mem_cons_self)
      (fun hold => List.mem_append_left _ (h.files p c hold))
  have hnodup := filesStep_keys_nodup e h.filesNodup
  rw [ostep_eq]
  cases hpa : parseAll parse (filesStep s.files e) with
  | none =>
    refine ⟨hfiles, fun p nss hm => ?_, hnodup, h.visibleNodup⟩
    obtain ⟨c, hc, hin⟩ := h.visible p nss hm
    exact ⟨c, hc, List.mem_append_left _ hin⟩
  | some vis =>
    refine ⟨hfiles, fun p nss hm => ?_, hnodup, parseAll_keys hpa ▸ hnodup⟩
    obtain ⟨c, hc, hpc⟩ := parseAll_mem hpa hm
    exact ⟨c, hpc, hfiles p c hc⟩

theorem OInv_foldl {parse : Parse} {hist : List Ev} {s : OState} (h : OInv parse hist s)
    (es : List Ev) : OInv parse (hist ++ es) (es.foldl (ostep parse) s) := by
  induction es generalizing hist s with
  | nil => simpa using h
  | cons e es ih =>
    have := ih (OInv_step h e)
    simpa [List.append_assoc] using this

theorem OInv_empty (parse : Parse) (hist : List Ev) : OInv parse hist {} :=
  ⟨fun _ _ h => (by simp at h), fun _ _ h => (by simp at h), List.nodup_nil, List.nodup_nil⟩

theorem OInv_orun (parse : Parse) (es : List Ev) : OInv parse es (orun parse es) := by
  simpa [orun] using OInv_foldl (OInv_empty parse []) es

/-- What the OPL watcher shows for a single watched file whose visible version is `acc`. -/
def single (p : String) : Option (List String) → List (String × List String)
  | some nss => [(p, nss)]
  | none => []

theorem ovisible_foldl_single (parse : Parse) (p : String) (s : OState) (es : List Ev)
    (acc : Option (List String))
    (hs : s.files = [] ∨ ∃ c0, s.files = [(p, c0)]) (hv : s.visible = single p acc)
    (hes : ∀ e ∈ es, (∃ c, e = Ev.change p c) ∨ e = Ev.remove p) :
    (es.foldl (ostep parse) s).visible = single p (es.foldl (sinceStep parse p) acc) := by
  induction es generalizing s acc with
  | nil => exact hv
  | cons e es ih =>
    have ⟨hchange, hremove⟩ :
        (∀ c, filesStep s.files (.change p c) = [(p, c)]) ∧ filesStep s.files (.remove p) = [] := by
      rcases hs with h | ⟨c0, h⟩ <;> simp [filesStep, h, put, del]
    have hes' := fun e he => hes e (List.mem_cons_of_mem _ he)
    rcases hes e List.mem_cons_self with ⟨c, rfl⟩ | rfl
    · refine ih _ _ (.inr ⟨c, by rw [ostep_files, hchange]⟩) ?_ hes'
      rw [ostep_visible, hchange]
      cases hc : parse c <;> simp [parseAll, hc, sinceStep, hv, single]
    · refine ih _ _ (.inl (by rw [ostep_files, hremove])) ?_ hes'
      rw [ostep_visible, hremove]
      simp [parseAll, sinceStep, single]

theorem ovisible_orun_single (parse : Parse) (p : String) (es : List Ev)
    (hes : ∀ e ∈ es, (∃ c, e = Ev.change p c) ∨ e = Ev.remove p) :
    (orun parse es).visible = single p (lastValidSinceRemove parse p es) :=
  ovisible_foldl_single parse p {} es none (.inl rfl) rfl hes

theorem foldlC_unrelated {σ} {step : σ → Ev → σ} {stepC : σ → CEv → σ}
    (hfile : ∀ s e, stepC s (.file e) = step s e) (hsame : ∀ s, stepC s (.reload true) = s)
    (s : σ) (es : List CEv) (h : unrelatedOnly es = true) :
    es.foldl stepC s = (fileEvents es).foldl step s := by
  induction es generalizing s with
  | nil => rfl
  | cons e es ih =>
    match e, h with
    | .file e, h => simpa [fileEvents, hfile] using ih _ h
    | .reload true, h => simpa [fileEvents, hsame] using ih _ h

end Keto.W
