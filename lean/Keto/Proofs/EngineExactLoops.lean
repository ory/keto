/-
  Exactness of the engine model for ALL configurations, part 2: outcomes (`RunX`, `RunX0`), thunks
  (`ThunkX`), groups and loops.  Every group of the engine is `GroupX.nil`, some steps `add` / `decided` /
  `fault` / `lim`, and `GroupX.result`.  Loops: `gRun_x` (by Keto/Proofs/EngineGroupLoop.lean that is
  `relLoop`, `ttuRows` and `expandLoop`), `orRun_x` (also the page loop `ttuPages`), `andLoop_x`.
  The heap/limit bookkeeping (`Frame`, `Valid`, `vis`) is the one of Keto/Proofs/EngineFrame.lean.
-/
import Keto.Proofs.EngineFrame
import Keto.Proofs.EngineExactLogic
import Keto.Proofs.EngineGroupLoop

namespace Keto

/-- What a run at `(c, w)` with outcome `out` establishes when NO limit event has happened up to its end:
    an `isMember` answer proves `PT`; an answer that is not decisive (no error, not `isMember`) is
    `notMember` (never `unknown`), the visited set of `c` was extended by dead nodes only (`ExtF`) and
    `PF V` holds for the visited set `V` at the START of the run (a refutation that may assume `V`). -/
structure RunX (E : Env) (sub : Subject) (PT : Prop) (PF : List VKey → Prop) (c : Ctx) (w : World)
    (out : Res × World) : Prop where
  frame : Frame c.vref w out.2
  pos : out.1.memb = .isMember → out.2.limitHits = 0 → PT
  neg : out.1.decisive = false → out.2.limitHits = 0 →
    out.1.memb = .notMember ∧ ExtF E.cfg E.T sub (vis c w) (vis c out.2) ∧ PF (vis c w)

/-- A refutation w.r.t. an avoid set extended by dead nodes gives one w.r.t. the original set. -/
def FBack (E : Env) (sub : Subject) (PF : List VKey → Prop) : Prop :=
  ∀ V0 V1, ExtF E.cfg E.T sub V0 V1 → PF V1 → PF V0

/-- "`t` / `ch` is refuted, assuming the nodes of `V`" (engine-shaped refutation), with the visited set
    last, unlike in `FaE` / `HFaE`: `FM E t` and `FH E t ch` are the predicates on visited sets that
    `RunX`, `ThunkX` and `GroupX` take. -/
@[reducible] def FM (E : Env) (t : Tuple) (V : List VKey) : Prop := FaE E.cfg E.T V t
@[reducible] def FH (E : Env) (t : Tuple) (ch : Child) (V : List VKey) : Prop := HFaE E.cfg E.T V ch t

theorem FM.back (E : Env) (t : Tuple) : FBack E t.sub (FM E t) :=
  fun _ _ hext h => h.repl rfl hext.repl

theorem FH.back (E : Env) (t : Tuple) (ch : Child) : FBack E t.sub (FH E t ch) :=
  fun _ _ hext h => h.repl rfl hext.repl

section
variable {E : Env} {sub : Subject} {PT PT' : Prop} {PF PF' : List VKey → Prop} {c : Ctx} {w w1 : World}
  {out : Res × World} {lh lh' : Nat} {th : Thunk}

theorem RunX.of_lim (hf : Frame c.vref w out.2) (hl : out.2.limitHits ≠ 0) : RunX E sub PT PF c w out :=
  ⟨hf, fun _ h => absurd h hl, fun _ h => absurd h hl⟩

theorem RunX.of_err (hf : Frame c.vref w out.2) (k : ErrKind) (he : out.1 = Res.error k) :
    RunX E sub PT PF c w out :=
  ⟨hf, fun h => (by rw [he] at h; cases h), fun h => (by rw [he] at h; cases h)⟩

theorem RunX.of_isM (hf : Frame c.vref w out.2) (he : out.1 = Res.isM) (hp : PT) : RunX E sub PT PF c w out :=
  ⟨hf, fun _ _ => hp, fun h => by rw [he] at h; cases h⟩

theorem RunX.of_skip (hp : PF (vis c w)) : RunX E sub PT PF c w (Res.nm, w) :=
  ⟨Frame.refl _ _, fun h => (by cases h), fun _ _ => ⟨rfl, ExtF.refl _ _, hp⟩⟩

theorem RunX.imp (h : RunX E sub PT PF c w out) (hT : PT → PT') (hF : ∀ V, PF V → PF' V) :
    RunX E sub PT' PF' c w out :=
  ⟨h.frame, fun hm hl => hT (h.pos hm hl), fun hd hl =>
    ⟨(h.neg hd hl).1, (h.neg hd hl).2.1, hF _ (h.neg hd hl).2.2⟩⟩

theorem RunX.exact (h : RunX E sub PT PF c w out) (hlim : out.2.limitHits = 0) :
    (out.1.memb = .isMember → PT) ∧ (out.1.decisive = false → out.1 = Res.nm ∧ PF (vis c w)) :=
  ⟨fun hm => h.pos hm hlim, fun hnd =>
    ⟨Res.eq_mk (h.neg hnd hlim).1 (Res.decisive_eq_false.1 hnd).1, (h.neg hnd hlim).2.2⟩⟩

/-- A run whose start was preceded by steps that left every existing visited set alone (a storage
    call, the construction of a thunk). -/
theorem RunX.of_frame (hf : Frame none w w1) (hv : Valid c w) (h : RunX E sub PT PF c w1 out) :
    RunX E sub PT PF c w out :=
  ⟨hf.weaken.trans h.frame, h.pos, fun hd hl => by
    have := h.neg hd hl
    rwa [vis_frame hf hv] at this⟩

theorem RunX.of_call (h : RunX E sub PT PF c (w.call E).2 out) : RunX E sub PT PF c w out :=
  ⟨(Frame.ofCall _ E w).trans h.frame, h.pos, h.neg⟩

/-- What a run in its own scope (operand of `and`, operand of `!`) establishes: nothing existing is
    touched; `isMember` proves `PT`, a non-decisive result proves `PF` (a closed refutation). -/
structure RunX0 (PT PF : Prop) (w : World) (out : Res × World) : Prop where
  frame : Frame none w out.2
  pos : out.1.memb = .isMember → out.2.limitHits = 0 → PT
  neg : out.1.decisive = false → out.2.limitHits = 0 → out.1.memb = .notMember ∧ PF

theorem RunX0.toRunX {P : Prop} (hv : Valid c w) (h : RunX0 PT P w out) : RunX E sub PT (fun _ => P) c w out :=
  ⟨h.frame.weaken, h.pos, fun hd hl =>
    ⟨(h.neg hd hl).1, by rw [vis_frame h.frame hv]; exact ExtF.refl _ _, (h.neg hd hl).2⟩⟩

/-- `!` swaps the two sides. -/
theorem RunX0.invert {P : Prop} (h : RunX0 PT P w out) : RunX0 P PT w (invertRes out.1, out.2) :=
  ⟨h.frame, fun hm hl => (h.neg (invertRes_isMember hm) hl).2, fun hd hl =>
    (invertRes_nondec hd).elim (fun h1 => ⟨h1.2, h.pos h1.1 hl⟩) (fun h1 => absurd (h.neg h1.1 hl).1 h1.2)⟩

theorem RunX.of_fresh (h : RunX E sub PT PF (fresh w).1 (fresh w).2 out) : RunX0 PT (PF []) w out := by
  have hf := h.frame
  rw [fresh_vref] at hf
  refine ⟨(fresh_frame w).trans_new hf (Nat.le_refl _), h.pos, fun hd hl => ?_⟩
  have := h.neg hd hl
  rw [fresh_vis] at this
  exact ⟨this.1, this.2.2⟩

theorem RunX.of_initVisited (h : RunX E sub PT PF (initVisited c w).1 (initVisited c w).2 out) :
    RunX E sub PT PF c w out := by
  unfold initVisited at h
  cases hc : c.vref with
  | some r => rwa [hc] at h
  | none =>
    rw [hc] at h
    obtain ⟨hf, hpos, hneg⟩ := h.of_fresh
    rw [← hc] at hf
    refine ⟨hf, hpos, fun hd hl => ?_⟩
    rw [vis_of_none hc, vis_of_none hc]
    exact ⟨(hneg hd hl).1, ExtF.refl _ _, (hneg hd hl).2⟩

/-- A thunk built when `lh` limit events had happened: whenever it is run later.  The bound `lh` is
    what covers the constant `unknown` built at a depth cut: every later run then has `limitHits ≠ 0`
    (`ThunkX.const_lim`), and `RunX` claims nothing of such a run. -/
def ThunkX (E : Env) (sub : Subject) (PT : Prop) (PF : List VKey → Prop) (lh : Nat) (th : Thunk) : Prop :=
  ∀ c w, Valid c w → lh ≤ w.limitHits → RunX E sub PT PF c w (th c w)

theorem ThunkX.mono (h : ThunkX E sub PT PF lh th) (hl : lh ≤ lh') : ThunkX E sub PT PF lh' th :=
  fun c w hv hw => h c w hv (Nat.le_trans hl hw)

theorem ThunkX.imp (h : ThunkX E sub PT PF lh th) (hT : PT → PT') (hF : ∀ V, PF V → PF' V) :
    ThunkX E sub PT' PF' lh th :=
  fun c w hv hl => (h c w hv hl).imp hT hF

theorem ThunkX.const_lim (r : Res) (hl : lh ≠ 0) : ThunkX E sub PT PF lh (constT r) :=
  fun _ w _ hw => RunX.of_lim (Frame.refl _ _) (by show w.limitHits ≠ 0; omega)

theorem ThunkX.const_err (k : ErrKind) : ThunkX E sub PT PF lh (constT (Res.error k)) :=
  fun _ _ _ _ => RunX.of_err (Frame.refl _ _) k rfl

def ThunkX0 (PT PF : Prop) (lh : Nat) (th : Thunk) : Prop :=
  ∀ c w, lh ≤ w.limitHits → RunX0 PT PF w (th c w)

theorem ThunkX0.mono {PT PF : Prop} (h : ThunkX0 PT PF lh th) (hl : lh ≤ lh') : ThunkX0 PT PF lh' th :=
  fun c w hw => h c w (Nat.le_trans hl hw)

theorem ThunkX.withFresh (h : ThunkX E sub PT PF lh th) : ThunkX0 PT (PF []) lh (withFresh th) :=
  fun _ w hw => (h (fresh w).1 (fresh w).2 (fresh_valid w) hw).of_fresh

/-- A constant (a call evaluated while the check was constructed, in a fresh scope), run in a fresh
    scope later. -/
theorem ThunkX0.of_const {w0 : World} {res : Res} (hr : RunX E sub PT PF (fresh w0).1 (fresh w0).2 (res, w1)) :
    ThunkX0 PT (PF []) w1.limitHits (Keto.withFresh (constT res)) := by
  intro c' w'' hl
  have hz : (Keto.withFresh (constT res) c' w'').2.limitHits = 0 → w1.limitHits = 0 :=
    fun (hlim : w''.limitHits = 0) => Nat.le_zero.1 (hlim ▸ hl)
  exact ⟨fresh_frame w'', fun hm hlim => hr.of_fresh.pos hm (hz hlim), fun hd hlim => hr.of_fresh.neg hd (hz hlim)⟩

end

/-- A sequential checkgroup in progress: `gw` is the group and the world after some checks have been
    added, `w0` the world when the group was created.  If no limit event has happened so far, an
    `isMember` in the group proves `PT`; if moreover the group is still undecided, the visited set has
    been extended by dead nodes only and every check added so far is refuted (`PF`) w.r.t. the
    visited set at the START. -/
structure GroupX (E : Env) (sub : Subject) (PT : Prop) (PF : List VKey → Prop) (c : Ctx) (w0 : World)
    (gw : Option Res × World) : Prop where
  frame : Frame c.vref w0 gw.2
  dec : GDec gw.1
  pos : gw.2.limitHits = 0 → GInv (QS PT) gw.1
  neg : gw.1 = none → gw.2.limitHits = 0 → ExtF E.cfg E.T sub (vis c w0) (vis c gw.2) ∧ PF (vis c w0)

namespace GroupX

variable {E : Env} {sub : Subject} {PT : Prop} {PF PF' : List VKey → Prop} {c : Ctx} {w0 : World}
  {gw : Option Res × World}

theorem nil {w : World} : GroupX E sub PT (fun _ => True) c w (none, w) :=
  ⟨Frame.refl _ _, GDec.none, fun _ => GInv.none, fun _ _ => ⟨ExtF.refl _ _, trivial⟩⟩

theorem imp (h : GroupX E sub PT PF c w0 gw) (hF : ∀ V, PF V → PF' V) : GroupX E sub PT PF' c w0 gw :=
  ⟨h.frame, h.dec, h.pos, fun hg hl => ⟨(h.neg hg hl).1, hF _ (h.neg hg hl).2⟩⟩

theorem add {out : Res × World} (h : GroupX E sub PT PF c w0 gw) (hr : RunX E sub PT PF' c gw.2 out)
    (hb : FBack E sub PF') : GroupX E sub PT (fun V => PF V ∧ PF' V) c w0 (gAdd gw.1 out.1, out.2) := by
  refine ⟨h.frame.trans hr.frame, h.dec.gAdd _, fun hl => ?_, fun hn hl => ?_⟩
  · exact (h.pos (lim_zero_of_frame hr.frame hl)).gAdd (fun hm => hr.pos hm hl)
  · obtain ⟨hg, hd⟩ := gAdd_eq_none hn
    obtain ⟨hext, hp⟩ := h.neg hg (lim_zero_of_frame hr.frame hl)
    obtain ⟨_, hext1, hp1⟩ := hr.neg hd hl
    -- `hp1` refutes the added check w.r.t. the visited set where the group stands; `hb` takes it back to the start
    exact ⟨hext.trans hext1, hp, hb _ _ hext hp1⟩

/-- A group that is decided stays as it is, whatever is claimed for the checks it skips. -/
theorem decided {x : Res} {w' : World} (h : GroupX E sub PT PF c w0 gw) (hx : gw.1 = some x)
    (hf : Frame c.vref gw.2 w') : GroupX E sub PT PF' c w0 (some x, w') :=
  ⟨h.frame.trans hf, hx ▸ h.dec, fun hl => hx ▸ h.pos (lim_zero_of_frame hf hl), fun hn => by cases hn⟩

theorem fault (h : GroupX E sub PT PF c w0 gw) :
    GroupX E sub PT PF' c w0 (some (Res.error .storage), (gw.2.call E).2) :=
  ⟨h.frame.trans (Frame.ofCall _ E gw.2), fun _ hx => by cases hx; rfl,
    fun _ => GInv.some (fun hm => by cases hm), fun hn => by cases hn⟩

theorem lim (h : GroupX E sub PT PF c w0 gw) : GroupX E sub PT PF' c w0 (gw.1, gw.2.lim) :=
  ⟨h.frame.trans (Frame.ofLim _ gw.2), h.dec, fun hl => by simp at hl, fun _ hl => by simp at hl⟩

theorem result (h : GroupX E sub PT PF c w0 gw) : RunX E sub PT PF c w0 (gResult gw.1, gw.2) :=
  ⟨h.frame, fun hm hl => GInv.gResult (fun h => nomatch h) (h.pos hl) hm, fun hd hl =>
    have hg := gResult_nondec h.dec hd
    ⟨by rw [hg]; rfl, h.neg hg hl⟩⟩

end GroupX

section
variable {E : Env} {sub : Subject} {PT : Prop} {c : Ctx}

theorem gRun_groupX {ι : Type} {f : ι → Ctx → World → Res × World} {PF : ι → List VKey → Prop}
    (hPF : ∀ i, FBack E sub (PF i)) {w0 : World} (hv : Valid c w0) :
    ∀ (is : List ι) {PF0 : List VKey → Prop} {gw : Option Res × World}, GroupX E sub PT PF0 c w0 gw →
      (∀ i, i ∈ is → ∀ w, Valid c w → RunX E sub PT (PF i) c w (f i c w)) →
      GroupX E sub PT (fun V => PF0 V ∧ ∀ i, i ∈ is → PF i V) c w0 (gRun (is.map f) gw.1 c gw.2)
  | [], _, _, h, _ => h.imp (fun _ hp => ⟨hp, fun _ hi => nomatch hi⟩)
  | i :: is, _, gw, h, hrec => by
    refine (gRun_groupX hPF hv is (h.add (hrec i (List.mem_cons_self ..) gw.2 (hv.frame h.frame)) (hPF i))
      (fun i' hi' => hrec i' (List.mem_cons_of_mem _ hi'))).imp (fun _ hp => ⟨hp.1.1, fun i' hi' => ?_⟩)
    cases hi' with
    | head => exact hp.1.2
    | tail _ hi'' => exact hp.2 i' hi''

/-- A group that starts empty, as a check of its own. -/
theorem gRun_x {ι : Type} {f : ι → Ctx → World → Res × World} {PF : ι → List VKey → Prop}
    (hPF : ∀ i, FBack E sub (PF i)) {is : List ι} {w : World} (hv : Valid c w)
    (hrec : ∀ i, i ∈ is → ∀ w, Valid c w → RunX E sub PT (PF i) c w (f i c w)) :
    RunX E sub PT (fun V => ∀ i, i ∈ is → PF i V) c w
      (gResult (gRun (is.map f) none c w).1, (gRun (is.map f) none c w).2) :=
  ((gRun_groupX hPF hv is (gw := (none, w)) GroupX.nil hrec).imp (fun _ hp => hp.2)).result

/-- One round of `checkExpandSubject`, the depth-first search proper. A subject set that is already
    marked is skipped; one that is not is marked and evaluated; if it is not a member it is dead. -/
theorem expandStep_x {rec : Tuple → Ctx → World → Res × World} {r0 : Nat} (hc : c.vref = some r0) {s : VKey}
    {w : World} (hv : Valid c w)
    (hrec : ∀ w, Valid c w → RunX E sub PT (FM E ⟨s.1, s.2.1, s.2.2, sub⟩) c w (rec ⟨s.1, s.2.1, s.2.2, sub⟩ c w)) :
    RunX E sub PT (fun V => s ∈ V ∨ DeadF E.cfg E.T sub V s) c w (expandStep rec sub s c w) := by
  have spec := checkAndAdd_spec c s w r0 hc (hv r0 hc)
  unfold expandStep
  cases hb : (checkAndAdd c s w).1 with
  | true =>
    obtain ⟨hin, hw⟩ := spec.1 hb
    simp only [if_true, hw]
    exact RunX.of_skip (Or.inl hin)
  | false =>
    obtain ⟨_, hvis1, hfr1, _⟩ := spec.2 hb
    rw [← hc] at hfr1
    have h1 := hrec (checkAndAdd c s w).2 (hv.frame hfr1)
    refine ⟨hfr1.trans h1.frame, h1.pos, fun hnd hlim => ?_⟩
    obtain ⟨hnm, hext1, hneg1⟩ := h1.neg hnd hlim
    rw [hvis1] at hext1 hneg1
    exact ⟨hnm, (ExtF.cons hneg1).trans hext1, Or.inr hneg1⟩

/-- Every row of the page `p` is refuted. -/
def PagePF (PF : VKey → List VKey → Prop) (p : List Tuple) (V : List VKey) : Prop :=
  ∀ t, t ∈ p → ∀ n o r, t.sub = .set n o r → PF (n, o, r) V

theorem PagePF.back {PF : VKey → List VKey → Prop} (hPF : ∀ s, FBack E sub (PF s)) (p : List Tuple) :
    FBack E sub (PagePF PF p) :=
  fun _ _ hext h t ht n o r hs => hPF _ _ _ hext (h t ht n o r hs)

theorem pageRun_x {rec : VKey → Ctx → World → Res × World} {PF : VKey → List VKey → Prop}
    (hPF : ∀ s, FBack E sub (PF s)) {p : List Tuple}
    (hrec : ∀ t, t ∈ p → ∀ n o r, t.sub = .set n o r → ∀ c w, Valid c w →
      RunX E sub PT (PF (n, o, r)) c w (rec (n, o, r) c w)) :
    ThunkX E sub PT (PagePF PF p) 0 (pageRun E rec p) := by
  intro c w hv _
  unfold pageRun
  split
  · exact RunX.of_err (Frame.ofCall _ E w) .storage rfl
  · rw [ttuRows_eq]
    refine (gRun_x (PF := fun (t : Tuple) V => ∀ n o r, t.sub = .set n o r → PF (n, o, r) V)
      (fun t _ _ hext h n o r hs => hPF _ _ _ hext (h n o r hs)) (hv.frame (Frame.ofCall none E w))
      (fun t ht w' hv' => ?_)).of_call
    -- a row with a subject id is skipped
    unfold rowRun
    cases hs : t.sub with
    | set n o r => exact (hrec t ht n o r hs c w' hv').imp id (fun _ h n' o' r' e => by cases e; exact h)
    | id u => exact RunX.of_skip (fun _ _ _ e => nomatch e)

end

theorem ThunkX.orCons {E : Env} {sub : Subject} {PT : Prop} {P1 P2 : List VKey → Prop} {lh : Nat} {th : Thunk}
    {ths : List Thunk} (h1 : ThunkX E sub PT P1 lh th) (h2 : ThunkX E sub PT P2 lh (orRun ths))
    (hb : FBack E sub P2) : ThunkX E sub PT (fun V => P1 V ∧ P2 V) lh (orRun (th :: ths)) := by
  intro c w hv hl
  have r1 := h1 c w hv hl
  simp only [orRun]
  split
  · next hd => exact ⟨r1.frame, r1.pos, fun hnd => by rw [hd] at hnd; cases hnd⟩
  · next hd =>
    have r2 := h2 c (th c w).2 (hv.frame r1.frame) (Nat.le_trans hl r1.frame.lim)
    refine ⟨r1.frame.trans r2.frame, r2.pos, fun hnd hlim => ?_⟩
    obtain ⟨hnm, hext2, hp2⟩ := r2.neg hnd hlim
    obtain ⟨_, hext1, hp1⟩ := r1.neg (by simpa using hd) (lim_zero_of_frame r2.frame hlim)
    exact ⟨hnm, hext1.trans hext2, hp1, hb _ _ hext1 hp2⟩

/-- `or`: all operands run in the scope of the `or`. -/
theorem orRun_x {E : Env} {sub : Subject} {lh : Nat} {PT : Prop} {ι : Type} {PF : ι → List VKey → Prop}
    (hPF : ∀ i, FBack E sub (PF i)) :
    ∀ {is : List ι} {ths : List Thunk}, All2 (fun i th => ThunkX E sub PT (PF i) lh th) is ths →
      ThunkX E sub PT (fun V => ∀ i, i ∈ is → PF i V) lh (orRun ths)
  | _, _, .nil => fun _ _ _ _ => RunX.of_skip (fun _ hi => nomatch hi)
  | _, _, .cons h t =>
    ((h.orCons (orRun_x hPF t) (fun _ _ hext hp i hi => hPF i _ _ hext (hp i hi))).imp id
      (fun _ hp i hi => by
        cases hi with
        | head => exact hp.1
        | tail _ hi' => exact hp.2 i hi'))

/-- `and`: every operand runs in its own scope; the loop ends at the first operand that is not a
    member, which refutes the conjunction; if it runs to the end, every operand is a member. -/
theorem andLoop_x {lh : Nat} {ι : Type} {PT PF : ι → Prop} :
    ∀ {is : List ι} {ths : List Thunk}, All2 (fun i th => ThunkX0 (PT i) (PF i) lh th) is ths →
      ∀ (c : Ctx) (w : World), lh ≤ w.limitHits →
        RunX0 (∀ i, i ∈ is → PT i) (∃ i, i ∈ is ∧ PF i) w (andLoop ths c w)
  | _, _, .nil, c, w, _ => ⟨Frame.refl _ _, fun _ _ _ hi => (nomatch hi), fun h => (nomatch h)⟩
  | _, _, .cons (a := i) (b := th) h t, c, w, hl => by
    have h1 := h c w hl
    simp only [andLoop]
    split
    · next hcond =>
      refine ⟨h1.frame, fun hm => (nomatch hm), fun hnd hlim => ⟨rfl, i, List.mem_cons_self .., (h1.neg ?_ hlim).2⟩⟩
      -- no error was passed on, so the operand stopped the loop by not being a member
      have he : (th c w).1.err = none := (Res.decisive_eq_false.1 hnd).1
      refine Res.decisive_eq_false.2 ⟨he, fun hm => ?_⟩
      simp [he, hm] at hcond
    · next hcond =>
      have hth : (th c w).1.memb = .isMember := by
        simp only [Bool.or_eq_true, bne_iff_ne, ne_eq, not_or, Decidable.not_not] at hcond
        exact hcond.2
      have ih := andLoop_x t c (th c w).2 (Nat.le_trans hl h1.frame.lim)
      refine ⟨h1.frame.trans ih.frame, fun hm hlim i' hi' => ?_, fun hnd hlim => ?_⟩
      · cases hi' with
        | head => exact h1.pos hth (lim_zero_of_frame ih.frame hlim)
        | tail _ hi'' => exact ih.pos hm hlim i' hi''
      · obtain ⟨hnm, i', hi', hn⟩ := ih.neg hnd hlim
        exact ⟨hnm, i', List.mem_cons_of_mem _ hi', hn⟩

end Keto
