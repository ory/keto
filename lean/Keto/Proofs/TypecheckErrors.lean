/-
  The errors of the type-check phase (Keto/Model/Typecheck.lean). What a deferred check reports does not depend on
  what was reported before (`runCheck_errors`: `checkErrs` is a function of the check alone), so the phase reports
  the errors of the single checks, in order (`typeCheck_errors`). Every error of a check points at one item of
  that check (`checkErrs_at`), hence into the input if the check does (`parse_errors_ok`). A check reports nothing iff
  its predicate holds (`checkErrs_nil`). `parse` field by field (`parse_errors`, `parse_panic`, …), and when it
  accepts (`parse_accepts_iff`). Last, the family of configurations on which one check takes `k ^ depth` steps
  (`recCheck_fam_steps`).
-/
import Keto.Model.Typecheck
import Keto.Proofs.OplLoops

namespace Keto.Opl
open Keto

/-! ### what the statements of C11 and C12 are written in -/

def PErr.at (k : ErrKind) (i : Item) : PErr := ⟨k, i.start, i.stop⟩

/-- `recE`: the errors of the recursive call. -/
def typeErrs (recE : String → String → List PErr) (nss : List Namespace) (item : Item) (relation : String)
    (t : RelType) : List PErr :=
  if t.rel == "" then
    (if (findRelationT nss t.ns relation).isNone then [PErr.at .relNotDeclared item] else [])
  else recE t.ns t.rel

/-- Latest first. -/
def typesErrs (recE : String → String → List PErr) (nss : List Namespace) (item : Item) (relation : String) :
    List RelType → List PErr
  | [] => []
  | t :: ts => typesErrs recE nss item relation ts ++ typeErrs recE nss item relation t

/-- The errors `recursiveCheckAllRelationsTypesHaveRelation` adds, latest first (`k = depth + 1`). -/
def recErrs (nss : List Namespace) (item : Item) (relation : String) : Nat → String → String → List PErr
  | 0, _, _ => [PErr.at .tcTooDeep item]
  | k+1, ns, relType =>
    match findRelationT nss ns relType with
    | none => [PErr.at .relNotDeclared item]
    | some r => typesErrs (recErrs nss item relation k) nss item relation r.types

/-- The errors one deferred check adds, latest first. -/
def checkErrs (nss : List Namespace) : TypeCheck → List PErr
  | .nsExists ns => if (findNsT nss (bstr ns.val)).isSome then [] else [PErr.at .nsNotDeclared ns]
  | .nsHasRelation ns rel =>
    match findNsT nss (bstr ns.val) with
    | some n => if (findRelT n.relations (bstr rel.val)).isSome then [] else [PErr.at .nsNoRelation rel]
    | none => [PErr.at .nsNotDeclared ns]
  | .curNsHasRelation cur rel =>
    match findNsT nss cur with
    | some n => if (findRelT n.relations (bstr rel.val)).isSome then [] else [PErr.at .nsNoRelation rel]
    | none => [PErr.at .nsNotDeclared rel]
  | .allTypesHaveRelation cur relType rel =>
    recErrs nss relType rel (Keto.Facts.tupleToSubjectSetTypeCheckMaxDepth + 1) cur (bstr relType.val)

/-- The item the errors of a failing check point at. -/
def TypeCheck.blame (nss : List Namespace) : TypeCheck → Item
  | .nsExists ns => ns
  | .nsHasRelation ns rel => if (findNsT nss (bstr ns.val)).isSome then rel else ns
  | .curNsHasRelation _ rel => rel
  | .allTypesHaveRelation _ relType _ => relType

def Declared (nss : List Namespace) (n : String) : Prop := ∃ N ∈ nss, N.name = n

/-- The (first) namespace named `n` declares a relation (or permission) named `r`. -/
def HasRelation (nss : List Namespace) (n r : String) : Prop :=
  ∃ N, findNsT nss n = some N ∧ ∃ R ∈ N.relations, R.name = r

/-- The predicate of `checkAllRelationsTypesHaveRelation`, mirroring the depth-limited recursion of
    `recursiveCheckAllRelationsTypesHaveRelation` (`k = depth + 1`): `rel` is a relation of `ns`; every
    plain type `T` of `rel` declares `crel`; for every type `SubjectSet<T, r>` of `rel` the same holds of
    `r` in `T`, `k - 1` levels deep. At `k = 0` the check fails ("could not typecheck deeply nested
    SubjectSet further"). -/
def TypesHave (nss : List Namespace) (crel : String) : Nat → String → String → Prop
  | 0, _, _ => False
  | k+1, ns, rel =>
    ∃ R, findRelationT nss ns rel = some R ∧
      ∀ t ∈ R.types, (t.rel = "" → HasRelation nss t.ns crel) ∧ (t.rel ≠ "" → TypesHave nss crel k t.ns t.rel)

/-- The predicate a deferred check tests (one clause per kind of check). -/
def checkOk (nss : List Namespace) : TypeCheck → Prop
  /- `T[]`: the namespace `T` is declared -/
  | .nsExists ns => Declared nss (bstr ns.val)
  /- `SubjectSet<T, R>`: `T` is declared and declares `R` -/
  | .nsHasRelation ns rel => HasRelation nss (bstr ns.val) (bstr rel.val)
  /- `this.related.R.includes(…)`, `this.permits.R(ctx)`, `this.related.R.traverse(…)` in namespace `cur` -/
  | .curNsHasRelation cur rel => HasRelation nss cur (bstr rel.val)
  /- `this.related.R.traverse(x => x.related.C.includes(…) / x.permits.C(ctx))` in namespace `cur` -/
  | .allTypesHaveRelation cur relType crel =>
    TypesHave nss crel (Keto.Facts.tupleToSubjectSetTypeCheckMaxDepth + 1) cur (bstr relType.val)

def checksOk (nss : List Namespace) (cs : List TypeCheck) : Prop := ∀ c ∈ cs, checkOk nss c

/-- The parser state after the syntax phase of `Parse` on the input `s`. -/
def synOf (s : List UInt8) : P := parseItems (lex s.toArray).items

@[simp] theorem TC.errors_tick (t : TC) : t.tick.errors = t.errors := rfl
@[simp] theorem TC.errors_err (t : TC) (i : Item) (k : ErrKind) : (t.err i k).errors = PErr.at k i :: t.errors := rfl

theorem typesErrs_eq (recE : String → String → List PErr) (nss : List Namespace) (item : Item) (relation : String) :
    ∀ ts : List RelType, typesErrs recE nss item relation ts = ts.reverse.flatMap (typeErrs recE nss item relation)
  | [] => rfl
  | t :: ts => by simp [typesErrs, typesErrs_eq recE nss item relation ts]

theorem typesLoop_errors (rec : String → String → TC → TC) (recE : String → String → List PErr)
    (hrec : ∀ a b tc, (rec a b tc).errors = recE a b ++ tc.errors) (nss : List Namespace) (item : Item)
    (relation : String) : ∀ (ts : List RelType) (tc : TC),
    (typesLoop rec nss item relation ts tc).errors = typesErrs recE nss item relation ts ++ tc.errors
  | [], tc => rfl
  | t :: ts, tc => by
    rw [typesLoop, typesLoop_errors rec recE hrec nss item relation ts, typesErrs, typeErrs, List.append_assoc]
    split
    · split <;> rfl
    · rw [hrec]; rfl

theorem recCheck_errors (nss : List Namespace) (item : Item) (relation : String) :
    ∀ (k : Nat) (ns relType : String) (tc : TC),
      (recCheck nss item relation k ns relType tc).errors = recErrs nss item relation k ns relType ++ tc.errors
  | 0, _, _, tc => rfl
  | k+1, ns, relType, tc => by
    rw [recCheck, recErrs]
    cases findRelationT nss ns relType with
    | none => rfl
    | some r => exact typesLoop_errors _ _ (recCheck_errors nss item relation k) ..

theorem runCheck_errors (nss : List Namespace) (c : TypeCheck) (tc : TC) :
    (runCheck nss c tc).errors = checkErrs nss c ++ tc.errors := by
  fun_cases runCheck nss c tc <;> simp_all +zetaDelta [checkErrs, recCheck_errors]

theorem typeCheck_errors (nss : List Namespace) : ∀ (cs : List TypeCheck) (tc : TC),
    (typeCheck nss cs tc).errors = cs.reverse.flatMap (checkErrs nss) ++ tc.errors
  | [], tc => rfl
  | c :: cs, tc => by simp [typeCheck, typeCheck_errors nss cs, runCheck_errors]

theorem mem_typeCheck_errors (nss : List Namespace) (cs : List TypeCheck) (e : PErr) :
    e ∈ (typeCheck nss cs {}).errors ↔ ∃ c ∈ cs, e ∈ checkErrs nss c := by
  simp [typeCheck_errors]

/-- Every error of the traverse check points at the item of the traversed relation. -/
theorem recErrs_at (nss : List Namespace) (item : Item) (relation : String) : ∀ (k : Nat) (ns rel : String),
    ∀ e ∈ recErrs nss item relation k ns rel, e.start = item.start ∧ e.stop = item.stop
  | 0, _, _, e, he => by
    rw [List.mem_singleton.mp he]; exact ⟨rfl, rfl⟩
  | k+1, ns, rel, e, he => by
    unfold recErrs at he
    split at he
    · rw [List.mem_singleton.mp he]; exact ⟨rfl, rfl⟩
    · rw [typesErrs_eq] at he
      obtain ⟨t, _, ht⟩ := List.mem_flatMap.mp he
      unfold typeErrs at ht
      split at ht
      · split at ht
        · rw [List.mem_singleton.mp ht]; exact ⟨rfl, rfl⟩
        · cases ht
      · exact recErrs_at nss item relation k _ _ e ht

theorem checkErrs_at (nss : List Namespace) (c : TypeCheck) :
    ∀ e ∈ checkErrs nss c, e.start = (c.blame nss).start ∧ e.stop = (c.blame nss).stop := by
  intro e he
  fun_cases checkErrs nss c <;> simp_all [checkErrs, TypeCheck.blame, PErr.at]
  exact recErrs_at _ _ _ _ _ _ e he

theorem okI_blame {N : Pos} {c : TypeCheck} (h : okC N c) (nss : List Namespace) : okI N (c.blame nss) := by
  fun_cases TypeCheck.blame nss c
  · exact h
  · exact h.2
  · exact h.1
  · exact h
  · exact h

theorem findNsT_name {nss : List Namespace} {n : String} {N : Namespace} (h : findNsT nss n = some N) :
    N.name = n := by
  have := List.find?_some h
  simpa using this

theorem findNsT_mem {nss : List Namespace} {n : String} {N : Namespace} (h : findNsT nss n = some N) : N ∈ nss :=
  List.mem_of_find?_eq_some h

theorem findRelT_name {rs : List Relation} {r : String} {R : Relation} (h : findRelT rs r = some R) : R.name = r := by
  have := List.find?_some h
  simpa using this

theorem findRelT_mem {rs : List Relation} {r : String} {R : Relation} (h : findRelT rs r = some R) : R ∈ rs :=
  List.mem_of_find?_eq_some h

theorem findNsT_isSome_iff (nss : List Namespace) (n : String) : (findNsT nss n).isSome = true ↔ Declared nss n := by
  unfold findNsT Declared
  simp

theorem findNsT_none_iff (nss : List Namespace) (n : String) : findNsT nss n = none ↔ ∀ N ∈ nss, N.name ≠ n := by
  unfold findNsT
  simp

theorem findRelT_isSome_iff (rs : List Relation) (r : String) : (findRelT rs r).isSome = true ↔ ∃ R ∈ rs, R.name = r := by
  unfold findRelT
  simp

theorem findRelT_none_iff (rs : List Relation) (r : String) : findRelT rs r = none ↔ ∀ R ∈ rs, R.name ≠ r := by
  unfold findRelT
  simp

theorem findRelationT_isSome_iff (nss : List Namespace) (n r : String) :
    (findRelationT nss n r).isSome = true ↔ HasRelation nss n r := by
  unfold findRelationT HasRelation
  cases h : findNsT nss n with
  | none => simp
  | some N => simp [findRelT_isSome_iff]

theorem hasRelation_declared {nss : List Namespace} {n r : String} (h : HasRelation nss n r) : Declared nss n := by
  obtain ⟨N, hN, _⟩ := h
  exact ⟨N, findNsT_mem hN, findNsT_name hN⟩

theorem typesErrs_nil (recE : String → String → List PErr) (nss : List Namespace) (item : Item) (relation : String)
    (ts : List RelType) :
    typesErrs recE nss item relation ts = [] ↔ ∀ t ∈ ts, typeErrs recE nss item relation t = [] := by
  simp [typesErrs_eq]

theorem typeErrs_nil (recE : String → String → List PErr) (nss : List Namespace) (item : Item) (crel : String)
    (t : RelType) : typeErrs recE nss item crel t = [] ↔
      (t.rel = "" → HasRelation nss t.ns crel) ∧ (t.rel ≠ "" → recE t.ns t.rel = []) := by
  unfold typeErrs
  by_cases ht : t.rel = "" <;> simp [ht, ← findRelationT_isSome_iff, Option.isSome_iff_ne_none]

theorem recErrs_nil (nss : List Namespace) (item : Item) (crel : String) : ∀ (k : Nat) (ns rel : String),
    recErrs nss item crel k ns rel = [] ↔ TypesHave nss crel k ns rel
  | 0, _, _ => by simp [recErrs, TypesHave]
  | k+1, ns, rel => by
    unfold recErrs TypesHave
    cases findRelationT nss ns rel <;> simp [typesErrs_nil, typeErrs_nil, recErrs_nil nss item crel k]

theorem checkErrs_nil (nss : List Namespace) (c : TypeCheck) : checkErrs nss c = [] ↔ checkOk nss c := by
  fun_cases checkErrs nss c <;>
    simp_all [checkOk, HasRelation, recErrs_nil, ← findNsT_isSome_iff, ← findRelT_isSome_iff]

theorem exists_mem_checkErrs {nss : List Namespace} {c : TypeCheck} (h : ¬ checkOk nss c) : ∃ e, e ∈ checkErrs nss c :=
  List.exists_mem_of_ne_nil _ fun hnil => h ((checkErrs_nil nss c).mp hnil)

theorem typeCheck_errors_nil (nss : List Namespace) (cs : List TypeCheck) :
    (typeCheck nss cs {}).errors = [] ↔ checksOk nss cs := by
  simp [typeCheck_errors, checkErrs_nil, checksOk]

theorem parse_namespaces (s : List UInt8) : (parse s).namespaces = (synOf s).nss := by
  fun_cases parse s <;> rfl

/-- The type check runs only if there is no syntax error. -/
theorem parse_errors (s : List UInt8) : (parse s).errors =
    if (synOf s).errors = [] then (typeCheck (synOf s).nss (synOf s).checks.reverse {}).errors.reverse
    else (synOf s).errors.reverse := by
  fun_cases parse s <;> simp_all +zetaDelta [synOf]

/-- Every error `Parse` reports, syntax or type error, lies where the items of the lexer lie. -/
theorem parse_errors_ok (N : Pos) (s : List UInt8) (h : ∀ i ∈ (lex s.toArray).items, okI N i) :
    ∀ e ∈ (parse s).errors, okE N e := by
  have hp := parseItems_ok N (lex s.toArray).items h
  intro e he
  rw [parse_errors] at he
  split at he
  · obtain ⟨c, hc, hec⟩ := (mem_typeCheck_errors _ _ e).mp (List.mem_reverse.mp he)
    have hat := checkErrs_at _ c e hec
    show N.Q e.start e.stop
    rw [hat.1, hat.2]
    exact okI_blame (hp.2.2 c (List.mem_reverse.mp hc)) _
  · exact hp.2.1 e (List.mem_reverse.mp he)

theorem parse_panic (s : List UInt8) : (parse s).panic = ((lex s.toArray).panic || (synOf s).panic) := by
  fun_cases parse s <;> rfl

theorem parse_nItems (s : List UInt8) : (parse s).nItems = (lex s.toArray).items.length := by
  fun_cases parse s <;> rfl

theorem parse_lexSteps (s : List UInt8) : (parse s).lexSteps = (lex s.toArray).steps := by
  fun_cases parse s <;> rfl

theorem parse_parseSteps (s : List UInt8) : (parse s).parseSteps = (synOf s).steps := by
  fun_cases parse s <;> rfl

theorem mem_parse_errors (s : List UInt8) (h : (synOf s).errors = []) (e : PErr) :
    e ∈ (parse s).errors ↔ ∃ c ∈ (synOf s).checks, e ∈ checkErrs (synOf s).nss c := by
  simp [parse_errors, h, mem_typeCheck_errors]

theorem parse_accepts_iff (s : List UInt8) :
    (parse s).errors = [] ↔ (synOf s).errors = [] ∧ checksOk (synOf s).nss (synOf s).checks := by
  rw [parse_errors]
  split <;> simp_all [typeCheck_errors_nil, checksOk]

/-- `class N { related: { a: (SubjectSet<N,"a"> | … k times)[] } }` as the parser returns it. -/
def famNss (k : Nat) : List Namespace := [⟨"N", [⟨"a", List.replicate k ⟨"N", "a"⟩, none⟩]⟩]

theorem fam_find (k : Nat) : findRelationT (famNss k) "N" "a" = some ⟨"a", List.replicate k ⟨"N", "a"⟩, none⟩ := by
  simp [findRelationT, findNsT, findRelT, famNss]

/-- Every type that names a relation costs its iteration and its recursive call. -/
theorem typesLoop_steps (rec : String → String → TC → TC) (c : Nat) (nss : List Namespace) (item : Item)
    (relation : String) (ts : List RelType) (tc : TC)
    (hrec : ∀ t ∈ ts, (t.rel == "") = false ∧ ∀ tc, tc.steps + c ≤ (rec t.ns t.rel tc).steps) :
    tc.steps + ts.length * (1 + c) ≤ (typesLoop rec nss item relation ts tc).steps := by
  fun_induction typesLoop rec nss item relation ts tc with
  | case1 => simp
  | case2 t ts tc tc1 tc2 ih =>
    obtain ⟨ht, hr⟩ := hrec t (List.mem_cons_self ..)
    have h2 : tc.steps + 1 + c ≤ tc2.steps := by
      simp only [tc2, ht, Bool.false_eq_true, if_false]
      exact hr tc1
    have := ih fun t h => hrec t (List.mem_cons_of_mem _ h)
    rw [List.length_cons, Nat.succ_mul]
    omega

theorem recCheck_fam_steps (k : Nat) (item : Item) (relation : String) :
    ∀ (d : Nat) (tc : TC), tc.steps + k ^ d ≤ (recCheck (famNss k) item relation d "N" "a" tc).steps
  | 0, tc => Nat.le_refl _
  | d+1, tc => by
    unfold recCheck
    simp only [fam_find]
    have h := typesLoop_steps (recCheck (famNss k) item relation d) (k ^ d) (famNss k) item relation
      (List.replicate k ⟨"N", "a"⟩) tc.tick fun t ht => by
        rw [List.eq_of_mem_replicate ht]
        exact ⟨by decide, recCheck_fam_steps k item relation d⟩
    have h3 : tc.tick.steps = tc.steps + 1 := rfl
    rw [List.length_replicate] at h
    have : k ^ (d + 1) ≤ k * (1 + k ^ d) := by
      rw [Nat.pow_succ, Nat.mul_add, Nat.mul_comm (k ^ d) k]; omega
    omega

theorem runCheck_fam_steps (k : Nat) (item : Item) (relation : String) (hi : bstr item.val = "a") :
    k ^ (Keto.Facts.tupleToSubjectSetTypeCheckMaxDepth + 1) ≤
      (runCheck (famNss k) (.allTypesHaveRelation "N" item relation) {}).steps := by
  have := recCheck_fam_steps k item relation (Keto.Facts.tupleToSubjectSetTypeCheckMaxDepth + 1) (({} : TC).tick)
  rw [runCheck, hi]
  omega

/-- A function that is at least `k ^ d`, `d ≥ 2`, exceeds every linear function of the input size `c0 + c1 * k`:
    at `k = (c0 + c1) * a + b + 2` already `k * k` does. -/
theorem exceeds_linear {f : Nat → Nat} {d : Nat} (hd : 2 ≤ d) (hf : ∀ k, k ^ d ≤ f k) (c0 c1 a b : Nat) :
    ∃ k, a * (c0 + c1 * k) + b < f k := by
  refine ⟨(c0 + c1) * a + b + 2, ?_⟩
  generalize hk : (c0 + c1) * a + b + 2 = k
  have hpos : 0 < k := by omega
  have hpow : k * k ≤ k ^ d := Nat.pow_two k ▸ Nat.pow_le_pow_right hpos hd
  have hsq : k * k = c0 * (a * k) + c1 * (a * k) + b * k + 2 * k := by
    rw [← Nat.add_mul c0 c1, ← Nat.mul_assoc, ← Nat.add_mul, ← Nat.add_mul, hk]
  have hlin : a * (c0 + c1 * k) = c0 * a + c1 * (a * k) := by
    rw [Nat.mul_add, Nat.mul_comm a c0, Nat.mul_left_comm]
  have ha : c0 * a ≤ c0 * (a * k) := Nat.mul_le_mul_left c0 (Nat.le_mul_of_pos_right a hpos)
  have := hf k
  omega

end Keto.Opl
