/-
  Termination of the engine model: with `Call.need` fuel `build` never answers `diverged`
  (neither while the check is constructed nor when the returned thunk is run), and more fuel
  does not change anything.

  The first part is an instance of `build_inv` (EngineSound): `Call.need ≤ fuel` is closed under the
  calls `build` makes (`need_closed`).
-/
import Keto.Model.Engine
import Keto.Spec.Fuel
import Keto.Proofs.EngineSound

namespace Keto

theorem allowedFuel_step (H : Nat) (d : Int) (hd : ¬ d ≤ 0) :
    allowedFuel H d = allowedFuel H (d - 1) + H + 1 := by
  unfold allowedFuel
  have e : d.toNat = (d - 1).toNat + 1 := by omega
  rw [e, Nat.succ_mul]
  omega

theorem allowedFuel_mono (H : Nat) {d d' : Int} (h : d ≤ d') : allowedFuel H d ≤ allowedFuel H d' := by
  have e : d.toNat ≤ d'.toNat := by omega
  exact Nat.add_le_add_right (Nat.mul_le_mul_right _ e) _

theorem height_le_heightList : ∀ {cs : List Child} {ch : Child}, ch ∈ cs → ch.height ≤ Child.heightList cs
  | [], _, h => by cases h
  | c :: cs, ch, h => by
    cases h with
    | head => exact Nat.le_max_left ..
    | tail _ h' => exact Nat.le_trans (height_le_heightList h') (Nat.le_max_right ..)

theorem height_le_cfg {c : Cfg} {ns rel : String} {R : Relation} {rw : Rewrite}
    (hR : astRelationFor c ns rel = .rel R) (hrw : R.rewrite = some rw) : rw.height ≤ Cfg.height c := by
  have h := le_cfg_max Relation.height hR
  rwa [Relation.height, hrw] at h

section
variable {H : Nat} {t t' : Tuple} {rw : Rewrite} {ch : Child} {rel crel : String} {op : Op} {cs : List Child} {d : Int}
  {inv skip skip' : Bool}

/-! `Call.need` decreases along every call `build` makes (`H` bounds the configuration where a
    rewrite is looked up). -/

theorem need_rewrite {c : Cfg} (hH : Cfg.height c ≤ H) {R : Relation} (hd : ¬ d ≤ 0)
    (hR : astRelationFor c t.ns t.rel = .rel R) (hrw : R.rewrite = some rw) :
    (Call.rewrite t rw d).need H < (Call.isAllowed t d skip).need H := by
  have h1 := height_le_cfg hR hrw
  have h2 := allowedFuel_step H d hd
  simp only [Rewrite.height, Child.height] at h1
  simp only [Call.need]
  omega

theorem need_expand (hd : ¬ d ≤ 0) : (Call.isAllowed t' (d - 1) skip').need H < (Call.isAllowed t d skip).need H := by
  have h2 := allowedFuel_step H d hd
  simp only [Call.need]
  omega

theorem need_shortcut : (Call.isAllowed t' (d - 1) skip).need H < (Call.rewrite t rw d).need H := by
  simp only [Call.need]
  omega

theorem need_child (hm : ch ∈ rw.children) : (Call.child t ch d inv).need H < (Call.rewrite t rw d).need H := by
  have := height_le_heightList hm
  simp only [Call.need]
  omega

theorem need_ttu : (Call.isAllowed t' (d - 1) skip).need H < (Call.child t (.ttu rel crel) d inv).need H := by
  simp only [Call.need, Child.height]
  omega

theorem need_computed : (Call.isAllowed t' (d - 1) skip).need H < (Call.child t (.computed rel) d inv).need H := by
  simp only [Call.need, Child.height]
  omega

theorem need_crewrite :
    (Call.rewrite t ⟨op, cs⟩ (if inv then d else d - 1)).need H < (Call.child t (.rewrite op cs) d inv).need H := by
  have hm : allowedFuel H ((if inv then d else d - 1) - 1) ≤ allowedFuel H (d - 1) := by
    apply allowedFuel_mono
    split <;> omega
  simp only [Call.need, Child.height]
  omega

theorem need_cinvert : (Call.invert t ch d).need H < (Call.child t (.invert ch) d inv).need H := by
  simp only [Call.need, Child.height]
  omega

theorem need_invert : (Call.child t ch d inv).need H < (Call.invert t ch d).need H := by
  simp only [Call.need]
  omega

end

theorem need_step {H n : Nat} {call call' : Call} (hlt : call'.need H < call.need H) (hok : call.need H ≤ n + 1) :
    call'.need H ≤ n :=
  Nat.le_of_lt_succ (Nat.lt_of_lt_of_le hlt hok)

theorem need_closed (E : Env) (H : Nat) (hH : Cfg.height E.cfg ≤ H) :
    Closed E (NoErr .diverged) (fun n call => call.need H ≤ n) where
  zero := by
    intro call h
    cases call <;> simp only [Call.need, allowedFuel] at h <;> omega
  bad := fun _ _ _ _ _ _ _ h => nomatch h
  isAllowed_rw := fun _ _ _ _ hok hd _ _ hR hrw => need_step (need_rewrite hH hd hR hrw) hok
  isAllowed_exp := fun _ _ _ _ hok hd _ _ _ _ => need_step (need_expand hd) hok
  rewrite_sc := fun _ _ _ _ hok _ _ _ => need_step need_shortcut hok
  rewrite_ch := fun _ _ _ _ hok _ _ hm => need_step (need_child hm) hok
  ttu := fun _ _ _ _ _ _ hok _ _ _ _ _ => need_step need_ttu hok
  computed := fun _ _ _ _ _ hok _ => need_step need_computed hok
  crewrite := fun _ _ _ _ _ _ hok => need_step need_crewrite hok
  cinvert := fun _ _ _ _ _ hok => need_step need_cinvert hok
  invert := fun _ _ _ _ hok _ => need_step need_invert hok

theorem buildChildren_congr {f g : Child → Ctx → World → Thunk × World} (isAnd : Bool) :
    ∀ (cs : List Child), (∀ ch, ch ∈ cs → ∀ c w, f ch c w = g ch c w) →
      ∀ c w, buildChildren f isAnd cs c w = buildChildren g isAnd cs c w
  | [], _, _, _ => rfl
  | ch :: cs, h, c, w => by
    simp only [buildChildren]
    rw [h ch (List.mem_cons_self ..)]
    rw [buildChildren_congr isAnd cs (fun ch' hc' => h ch' (List.mem_cons_of_mem _ hc'))]

theorem build_fuel_eq (E : Env) (H : Nat) (hH : Cfg.height E.cfg ≤ H) :
    ∀ (n m : Nat) (call : Call), call.need H ≤ n → call.need H ≤ m → build E n call = build E m call := by
  have hC := need_closed E H hH
  intro n
  induction n with
  | zero => intro m call h; exact absurd rfl (hC.zero call h)
  | succ n ih =>
    intro m call hn hm
    cases m with
    | zero => exact absurd rfl (hC.zero call hm)
    | succ m =>
      funext ctx w
      have step : ∀ {call'}, call'.need H < call.need H → build E n call' = build E m call' :=
        fun hlt => ih m _ (need_step hlt hn) (need_step hlt hm)
      cases call with
      | isAllowed t d skip =>
        rw [build, build]
        refine ite_congr rfl (fun _ => rfl) fun hd => ?_
        cases hlk : astRelationFor E.cfg t.ns t.rel with
        | bad => rfl
        | none => simp only [step (need_expand hd), Option.bind]
        | rel R =>
          cases hrw : R.rewrite with
          | none => simp only [step (need_expand hd), Option.bind, hrw]
          | some rw => simp only [step (need_expand hd), step (need_rewrite hH hd hlk hrw), Option.bind, hrw]
      | rewrite t rw d =>
        rw [build, build]
        refine ite_congr rfl (fun _ => rfl) fun _ => ?_
        have ech := buildChildren_congr
          (f := fun ch c w' => build E n (.child t ch d false) c w')
          (g := fun ch c w' => build E m (.child t ch d false) c w') (rw.op == .and)
          (if (rw.op == .or) = true then rw.children.filter (fun c => !c.isComputed) else rw.children)
          (fun ch hm' c w' => by
            have hm : ch ∈ rw.children := by
              split at hm'
              · exact (List.mem_filter.1 hm').1
              · exact hm'
            exact congrFun (congrFun (step (need_child hm)) c) w') ctx w
        simp only [step need_shortcut]
        rw [ech]
      | child t ch d inv =>
        cases ch with
        | ttu rel crel =>
          rw [build, build]
          refine ite_congr rfl (fun _ => rfl) fun _ => ?_
          simp only [step need_ttu]
        | computed rel =>
          rw [build, build]
          refine ite_congr rfl (fun _ => rfl) fun _ => ?_
          rw [step need_computed]
        | rewrite op cs => rw [build, build, step need_crewrite]
        | invert c => rw [build, build, step need_cinvert]
      | invert t c d =>
        rw [build, build]
        refine ite_congr rfl (fun _ => rfl) fun _ => ?_
        rw [step need_invert]

end Keto
