/-
  Fact tie for C14 (see Keto/Proofs/FactsTie.lean): the engines are stateless.
-/
import Keto.Generated.Facts

namespace Keto.FactsTie
open Keto.Facts

/-- The check engine and the expand engine hold their dependency provider and nothing else: one engine
    serves every request (and, with a contextualizer, every tenant), so anything a request needs - the
    configuration in force, the visited set, result slots - lives in the request's context. -/
def expectedStructFields : List (String × String × String) := [
  ("internal/check/engine.go", "Engine", "d: EngineDependencies"),
  ("internal/expand/engine.go", "Engine", "d: EngineDependencies")]

theorem structFields_tie : structFields = expectedStructFields := rfl

end Keto.FactsTie
