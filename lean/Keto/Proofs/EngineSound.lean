/-
  What a call of the engine model (`Keto.build`) can answer, whatever the world it runs in:
  `Yields` collects the results of `build` by cases as `build` is, without contexts, visited sets,
  limit counters and fault oracle; `build_yields` is the one induction over `build`. Soundness for
  the positive fragment, "an error is never `isMember`" and the generic invariant `build_inv`
  (instances in EngineTermination and EngineNoSchemaError) are rule inductions over `Yields`.
-/
import Keto.Model.Engine
import Keto.Spec.Membership
import Keto.Spec.Positive
import Keto.Proofs.QueryLemmas
import Keto.Proofs.EngineGroupLoop

namespace Keto

def GInv (Q : Res → Prop) (g : Option Res) : Prop := ∀ r, g = some r → Q r

def TInv (Q : Res → Prop) (th : Thunk) : Prop := ∀ c w, Q (th c w).1

/-- `Q` for soundness w.r.t. `P`. -/
def QS (P : Prop) : Res → Prop := fun r => r.memb = .isMember → P

/-- `Q` for "an error is never a membership". -/
def QE : Res → Prop := fun r => r.err.isSome → r.memb ≠ .isMember

theorem soundT_iff (P : Prop) (th : Thunk) : SoundT P th ↔ TInv (QS P) th := Iff.rfl

/-- What the loops produce of their own. -/
structure QOk (Q : Res → Prop) : Prop where
  nm : Q Res.nm
  storage : Q (Res.error .storage)

theorem GInv.none {Q : Res → Prop} : GInv Q none := fun _ h => by cases h

theorem GInv.some {Q : Res → Prop} {r : Res} (h : Q r) : GInv Q (some r) :=
  fun _ e => by cases e; exact h

theorem GInv.gAdd {Q : Res → Prop} {g : Option Res} {r : Res} (hg : GInv Q g) (hr : Q r) :
    GInv Q (gAdd g r) := by
  unfold Keto.gAdd
  cases g with
  | some x => exact hg
  | none =>
    simp only
    split
    · exact GInv.some hr
    · exact GInv.none

theorem GInv.gResult {Q : Res → Prop} {g : Option Res} (hnm : Q Res.nm) (hg : GInv Q g) :
    Q (gResult g) := by
  cases g with
  | none => exact hnm
  | some x => exact hg x rfl

theorem TInv.withFresh {Q : Res → Prop} {th : Thunk} (h : TInv Q th) : TInv Q (withFresh th) :=
  fun _ _ => h _ _

theorem gRun_inv {Q : Res → Prop} :
    ∀ (fs : List (Ctx → World → Res × World)), (∀ f, f ∈ fs → ∀ c w, Q (f c w).1) →
      ∀ g c w, GInv Q g → GInv Q (gRun fs g c w).1
  | [], _, _, _, _, hg => hg
  | f :: fs, h, _, c, w, hg =>
    gRun_inv fs (fun f' hf' => h f' (List.mem_cons_of_mem _ hf')) _ c _
      (hg.gAdd (h f (List.mem_cons_self ..) c w))

theorem orRun_inv {Q : Res → Prop} (hnm : Q Res.nm) :
    ∀ (ths : List Thunk), (∀ th, th ∈ ths → TInv Q th) → TInv Q (orRun ths)
  | [], _, _, _ => hnm
  | th :: ths, h, c, w => by
    simp only [orRun]
    split
    · exact h th (List.mem_cons_self ..) c w
    · exact orRun_inv hnm ths (fun th' ht' => h th' (List.mem_cons_of_mem _ ht')) c _

theorem rowRun_inv {Q : Res → Prop} (hnm : Q Res.nm) {rec : VKey → Ctx → World → Res × World} {t : Tuple}
    (h : ∀ n o r, t.sub = .set n o r → ∀ c w, Q (rec (n, o, r) c w).1) (c : Ctx) (w : World) :
    Q (rowRun rec t c w).1 := by
  fun_cases rowRun rec t
  · next n o r hs => exact h n o r hs c w
  · exact hnm

theorem expandStep_inv {Q : Res → Prop} (hnm : Q Res.nm) {rec : Tuple → Ctx → World → Res × World}
    {sub : Subject} {s : VKey} (h : ∀ c w, Q (rec ⟨s.1, s.2.1, s.2.2, sub⟩ c w).1) (c : Ctx) (w : World) :
    Q (expandStep rec sub s c w).1 := by
  fun_cases expandStep rec sub s c w
  · exact hnm
  · exact h c _

theorem pageRun_inv {Q : Res → Prop} (hQ : QOk Q) (E : Env) {rec : VKey → Ctx → World → Res × World}
    {p : List Tuple} (h : ∀ t, t ∈ p → ∀ n o r, t.sub = .set n o r → ∀ c w, Q (rec (n, o, r) c w).1) :
    TInv Q (pageRun E rec p) := by
  intro c w
  fun_cases pageRun E rec p c w
  · exact hQ.storage
  · rw [ttuRows_eq]
    refine GInv.gResult hQ.nm (gRun_inv _ (fun f hf => ?_) _ _ _ GInv.none)
    obtain ⟨t, ht, rfl⟩ := List.mem_map.1 hf
    exact rowRun_inv hQ.nm (h t ht)

theorem scRun_inv {Q : Res → Prop} (hQ : QOk Q) {E : Env} {t : Tuple} {comps : List String}
    {rec : String → Ctx → World → Res × World}
    (hhit : ∀ r, r ∈ comps → (⟨t.ns, t.obj, r, t.sub⟩ : Tuple) ∈ E.T → Q Res.isM)
    (hrec : ∀ r, r ∈ comps → ∀ c w, Q (rec r c w).1) : TInv Q (scRun E t comps rec) := by
  intro c w
  fun_cases scRun E t comps rec c w
  · exact hQ.storage
  · next h =>
    obtain ⟨r, hr, hm⟩ := scHit_mem h
    exact hhit r hr hm
  · rw [relLoop_eq]
    refine GInv.gResult hQ.nm (gRun_inv _ (fun f hf => ?_) _ _ _ GInv.none)
    obtain ⟨r, hr, rfl⟩ := List.mem_map.1 hf
    exact hrec r hr

theorem buildChildren_all2 {R : Child → Thunk → Prop} (f : Child → Ctx → World → Thunk × World)
    (isAnd : Bool) :
    ∀ (cs : List Child), (∀ ch, ch ∈ cs → ∀ c w, R ch (f ch c w).1) →
      ∀ c w, All2 R cs (buildChildren f isAnd cs c w).1
  | [], _, _, _ => .nil
  | ch :: cs, h, c, w =>
    .cons (h ch (List.mem_cons_self ..) _ _)
      (buildChildren_all2 f isAnd cs (fun ch' hc' => h ch' (List.mem_cons_of_mem _ hc')) _ _)

/-- The two ways an `and` ends: every operand said `isMember` (without an error), or the first
    other answer `x` is passed on as `⟨notMember, x.err⟩`. -/
theorem andLoop_cases {R : Child → Res → Prop} :
    ∀ {cs : List Child} {ths : List Thunk}, All2 (fun ch th => TInv (R ch) th) cs ths → ∀ c w,
      ((andLoop ths c w).1 = Res.isM ∧ ∀ ch, ch ∈ cs → R ch Res.isM) ∨
      ∃ ch, ch ∈ cs ∧ ∃ x, R ch x ∧ (andLoop ths c w).1 = ⟨.notMember, x.err⟩
  | _, _, .nil, _, _ => .inl ⟨rfl, fun _ h => nomatch h⟩
  | _, _, .cons (a := a) (b := th) h t, c, w => by
    simp only [andLoop]
    split
    · exact .inr ⟨a, List.mem_cons_self .., _, h c w, rfl⟩
    · next hcond =>
      have hx : (th c w).1 = Res.isM := by
        rcases hr : (th c w).1 with ⟨m, e⟩
        rw [hr] at hcond
        obtain ⟨rfl, rfl⟩ : e = none ∧ m = .isMember := by simpa using hcond
        rfl
      cases andLoop_cases t c (th c w).2 with
      | inl h' =>
        refine .inl ⟨h'.1, fun ch hm => ?_⟩
        cases hm with
        | head => exact hx ▸ h c w
        | tail _ hm' => exact h'.2 ch hm'
      | inr h' =>
        obtain ⟨ch, hm, x, hr, e⟩ := h'
        exact .inr ⟨ch, List.mem_cons_of_mem _ hm, x, hr, e⟩

theorem posList_mem : ∀ {cs : List Child} {ch : Child}, Child.posList cs = true → ch ∈ cs → Child.pos ch = true
  | [], _, _, h => by cases h
  | c :: cs, ch, hp, h => by
    simp only [Child.posList, Bool.and_eq_true] at hp
    cases h with
    | head => exact hp.1
    | tail _ h' => exact posList_mem hp.2 h'

theorem expandRun_inv {Q : Res → Prop} (hQ : QOk Q) {E : Env} {rec : Tuple → Ctx → World → Res × World}
    {t : Tuple}
    (hany : ∀ n o r, (⟨t.ns, t.obj, t.rel, .set n o r⟩ : Tuple) ∈ E.T →
      (⟨n, o, r, t.sub⟩ : Tuple) ∈ E.T → Q Res.isM)
    (hrec : ∀ n o r, (⟨t.ns, t.obj, t.rel, .set n o r⟩ : Tuple) ∈ E.T →
      ∀ c w, Q (rec ⟨n, o, r, t.sub⟩ c w).1) :
    TInv Q (expandRun E rec t) := by
  intro c w
  fun_cases expandRun E rec t c w
  · exact hQ.storage
  · next hany' =>
    obtain ⟨⟨n, o, r⟩, hs, hc⟩ := List.any_eq_true.1 hany'
    exact hany n o r (mem_subjectSetsOf.1 hs) (List.contains_iff_mem.1 hc)
  · next _ _ _ sets _ over _ sets' gw =>
    refine GInv.gResult hQ.nm ?_
    simp only [gw]
    rw [expandLoop_eq]
    refine gRun_inv _ (fun f hf => ?_) _ _ _ GInv.none
    obtain ⟨⟨n, o, r⟩, hs, rfl⟩ := List.mem_map.1 hf
    exact expandStep_inv hQ.nm (hrec n o r (mem_subjectSetsOf.1 (mem_of_mem_widthCut hs)))

theorem directStep_inv {Q : Res → Prop} (hQ : QOk Q) {E : Env} {t : Tuple} {d : Int} {g : Option Res} {w : World}
    (hdir : t ∈ E.T → Q Res.isM) (hg : GInv Q g) : GInv Q (directStep E t d g w).1 := by
  fun_cases directStep E t d g w
  · exact hg
  · exact hg
  · exact GInv.some hQ.storage
  · refine GInv.none.gAdd ?_
    split
    · next h => exact hdir (List.contains_iff_mem.1 h)
    · exact hQ.nm

/-- `Yields E fuel call x`: an upper bound on what the call can answer, when the check is
    constructed or in any later run of the returned thunk. One rule per way a result arises in
    `build`, with the guards of `build`; contexts, visited sets, limit counters and the fault oracle
    are forgotten (so `unk`, `nm` and a storage error are allowed everywhere). -/
inductive Yields (E : Env) : Nat → Call → Res → Prop
  | diverged (call) : Yields E 0 call (Res.error .diverged)
  | unk (n call) : Yields E (n+1) call Res.unk
  | nm (n call) : Yields E (n+1) call Res.nm
  | storage (n call) : Yields E (n+1) call (Res.error .storage)
  | schema {n t d skip} : ¬ d ≤ 0 → astRelationFor E.cfg t.ns t.rel = .bad →
      Yields E (n+1) (.isAllowed t d skip) (Res.error .schema)
  | direct {n t d skip} : ¬ d ≤ 0 → t ∈ E.T → Yields E (n+1) (.isAllowed t d skip) Res.isM
  | expandAny {n t d skip n' o r} : ¬ d ≤ 0 → (⟨t.ns, t.obj, t.rel, .set n' o r⟩ : Tuple) ∈ E.T →
      (⟨n', o, r, t.sub⟩ : Tuple) ∈ E.T → Yields E (n+1) (.isAllowed t d skip) Res.isM
  | viaRewrite {n t d skip R rw x} : ¬ d ≤ 0 → astRelationFor E.cfg t.ns t.rel = .rel R →
      R.rewrite = some rw → Yields E n (.rewrite t rw d) x → Yields E (n+1) (.isAllowed t d skip) x
  | viaExpand {n t d skip n' o r x} : ¬ d ≤ 0 → (⟨t.ns, t.obj, t.rel, .set n' o r⟩ : Tuple) ∈ E.T →
      Yields E n (.isAllowed ⟨n', o, r, t.sub⟩ (d - 1) true) x → Yields E (n+1) (.isAllowed t d skip) x
  | shortcut {n t cs d r} : ¬ d ≤ 0 → Child.computed r ∈ cs → (⟨t.ns, t.obj, r, t.sub⟩ : Tuple) ∈ E.T →
      Yields E (n+1) (.rewrite t ⟨.or, cs⟩ d) Res.isM
  | viaShortcut {n t cs d r x} : ¬ d ≤ 0 → Child.computed r ∈ cs →
      Yields E n (.isAllowed { t with rel := r } (d - 1) true) x → Yields E (n+1) (.rewrite t ⟨.or, cs⟩ d) x
  | or {n t cs d ch x} : ¬ d ≤ 0 → ch ∈ cs → Yields E n (.child t ch d false) x →
      Yields E (n+1) (.rewrite t ⟨.or, cs⟩ d) x
  | andFail {n t cs d ch x} : ¬ d ≤ 0 → ch ∈ cs → Yields E n (.child t ch d false) x →
      Yields E (n+1) (.rewrite t ⟨.and, cs⟩ d) ⟨.notMember, x.err⟩
  | andAll {n t cs d} : ¬ d ≤ 0 → cs ≠ [] →
      (∀ ch, ch ∈ cs → Yields E n (.child t ch d false) Res.isM) →
      Yields E (n+1) (.rewrite t ⟨.and, cs⟩ d) Res.isM
  | ttu {n t rel crel d inv n' o r x} : ¬ d < 0 → (⟨t.ns, t.obj, rel, .set n' o r⟩ : Tuple) ∈ E.T →
      Yields E n (.isAllowed ⟨n', o, crel, t.sub⟩ (d - 1) false) x →
      Yields E (n+1) (.child t (.ttu rel crel) d inv) x
  | computed {n t rel d inv x} : ¬ d < 0 → Yields E n (.isAllowed { t with rel := rel } (d - 1) false) x →
      Yields E (n+1) (.child t (.computed rel) d inv) x
  | crewrite {n t op cs d inv x} : Yields E n (.rewrite t ⟨op, cs⟩ (if inv then d else d - 1)) x →
      Yields E (n+1) (.child t (.rewrite op cs) d inv) x
  | cinvert {n t c d inv x} : Yields E n (.invert t c d) x → Yields E (n+1) (.child t (.invert c) d inv) x
  | invert {n t c d x} : ¬ d < 0 → Yields E n (.child t c d true) x → Yields E (n+1) (.invert t c d) (invertRes x)

theorem Yields.ok (E : Env) (n : Nat) (call : Call) : QOk (Yields E (n+1) call) := ⟨.nm .., .storage ..⟩

theorem build_yields (E : Env) (fuel : Nat) (call : Call) (ctx : Ctx) (w : World) :
    TInv (Yields E fuel call) (build E fuel call ctx w).1 := by
  fun_induction build E fuel call ctx w with
  | case1 => exact fun _ _ => .diverged _  -- out of fuel
  | case2 | case5 | case7 | case9 | case13 => exact fun _ _ => .unk ..  -- depth exhausted
  | case3 _ _ _ _ _ _ hd hlk => exact fun _ _ => .schema hd hlk
  | case4 fuel t d skip ctx w hd strict hlk rel? rw? gw1 gw2 canSS gw3 ihrw ihexp =>  -- checkIsAllowed
    have hQ := Yields.ok E fuel (.isAllowed t d skip)
    refine fun _ _ => GInv.gResult hQ.nm ?_
    have h1 : GInv (Yields E (fuel+1) (.isAllowed t d skip)) gw1.1 := by
      cases hrw : rw? with
      | none =>
        simp only [gw1, hrw]
        exact GInv.none
      | some rw =>
        simp only [gw1, hrw]
        obtain ⟨R, hR, hRrw⟩ := lookup_rewrite_eq_some.1 hrw
        exact GInv.none.gAdd (.viaRewrite hd hR hRrw (ihrw rw ctx _))
    have h2 : GInv (Yields E (fuel+1) (.isAllowed t d skip)) gw2.1 := by
      simp only [gw2]
      split
      · exact directStep_inv hQ (.direct hd) h1
      · exact h1
    simp only [gw3]
    cases canSS with
    | false => exact h2
    | true =>
      simp only [if_true]
      split
      · exact h2
      · split
        · next x hx => rw [← hx]; exact h2
        · exact GInv.none.gAdd (expandRun_inv hQ (fun _ _ _ => .expandAny hd)
            (fun _ _ _ hm c w => .viaExpand hd hm (ihexp _ c w c _)) _ _)
  | case6 fuel t rw d ctx w hd isOr comps rest sc bw ths ihcomp ihch =>  -- rewrite
    obtain ⟨op, cs⟩ := rw
    have hQ := Yields.ok E fuel (.rewrite t ⟨op, cs⟩ d)
    have hall : All2 (fun ch th => TInv (Yields E fuel (.child t ch d false)) th) rest bw.1 :=
      buildChildren_all2 _ _ _ (fun ch _ c w => ihch ch c w) ctx w
    cases op with
    | or =>
      have e1 : (Op.or == Op.or) = true := by decide
      have e2 : (Op.or == Op.and) = false := by decide
      simp only [sc, ths, comps, rest, isOr, e1, e2, if_true, Bool.false_eq_true, if_false] at hall ⊢
      refine orRun_inv hQ.nm _ fun th hth => ?_
      rw [List.mem_append] at hth
      cases hth with
      | inl h =>
        obtain rfl := List.mem_singleton.1 (List.mem_ite_nil_left.1 h).2
        exact scRun_inv hQ (fun r hr hm => .shortcut hd (mem_computedRels.1 hr) hm)
          (fun r hr c w => .viaShortcut hd (mem_computedRels.1 hr) (ihcomp r c w c _))
      | inr h =>
        obtain ⟨ch, hm, hR⟩ := hall.right th h
        exact fun c w => .or hd (List.mem_filter.1 hm).1 (hR c w)
    | and =>
      have e1 : (Op.and == Op.and) = true := by decide
      have e2 : (Op.and == Op.or) = false := by decide
      simp only [sc, ths, comps, rest, isOr, e1, e2, if_true, Bool.false_eq_true, if_false, List.isEmpty_nil,
        List.nil_append] at hall ⊢
      have hall' := hall.imp (R' := fun ch th => TInv (Yields E fuel (.child t ch d false)) th) (f := withFresh)
        (fun _ _ h => h.withFresh)
      intro c w'
      show Yields _ _ _ (andRun _ c w').1
      unfold andRun
      split
      · exact hQ.nm
      · next hne =>
        cases andLoop_cases hall' c w' with
        | inl h =>
          rw [h.1]
          exact .andAll hd (fun hnil => hne (by rw [hall'.nil_iff.2 hnil]; rfl)) h.2
        | inr h =>
          obtain ⟨ch, hm, x, hx, e⟩ := h
          rw [e]
          exact .andFail hd hm hx
  | case8 fuel t d inv ctx w rel crel hd ih =>  -- tuple-to-subject-set
    have hQ := Yields.ok E fuel (.child t (.ttu rel crel) d inv)
    intro c w'
    dsimp only
    rw [ttuPages_fst]
    refine orRun_inv hQ.nm _ ?_ c w'
    intro th hth
    obtain ⟨p, hp, rfl⟩ := List.mem_map.1 hth
    refine pageRun_inv hQ E ?_
    intro x hx n' o r hs c w
    exact .ttu (r := r) hd (mem_page_rowsOf.1 ⟨p, hp, x, hx, hs⟩) (ih (n', o, r) c w c _)
  | case10 _ _ _ _ _ _ _ hd ih => exact fun c w' => .computed hd (ih c w')
  | case11 _ _ _ _ _ _ _ _ ih => exact fun c w' => .crewrite (ih c w')
  | case12 _ _ _ _ _ _ _ ih => exact fun c w' => .cinvert (ih c w')
  | case14 _ _ _ _ _ _ hd _ _ ih => exact fun _ _ => .invert hd (ih _ _)

theorem Yields.err_not_member {E : Env} {n : Nat} {call : Call} {x : Res} (h : Yields E n call x) : QE x := by
  induction h with
  | invert => exact invertRes_err _
  | unk | nm | direct | expandAny | shortcut | andAll => intro h; cases h
  | diverged | storage | schema | andFail => intro _ h; cases h
  | viaRewrite | viaExpand | viaShortcut | or | ttu | computed | crewrite | cinvert => assumption

theorem andLoop_err : ∀ (ths : List Thunk) (c : Ctx) (w : World), QE (andLoop ths c w).1
  | [], _, _ => fun h => nomatch h
  | th :: ths, c, w => by
    simp only [andLoop]
    split
    · intro _ h; cases h
    · exact andLoop_err ths c _

/-- What `build_inv` needs of `Q`, whatever the call: the answers that need no sub-call (these contain
    what `QOk` asks for the loops), and the way `and` and `!` transform an answer. -/
structure QOk2 (Q : Res → Prop) : Prop where
  nm : Q Res.nm
  unk : Q Res.unk
  isM : Q Res.isM
  storage : Q (Res.error .storage)
  /-- the failing operand of an `and` -/
  and : ∀ r, Q r → Q ⟨.notMember, r.err⟩
  inv : ∀ r, Q r → Q (invertRes r)

def NoErr (k : ErrKind) : Res → Prop := fun r => r.err ≠ some k

theorem NoErr.ok {k : ErrKind} (hk : k ≠ .storage) : QOk2 (NoErr k) where
  nm := nofun
  unk := nofun
  isM := nofun
  storage := fun h => hk (by cases h; rfl)
  and := fun _ h => h
  inv := fun r h => by rwa [NoErr, invertRes_err_eq]

/-- A predicate on (fuel, call) that is closed under the calls `build` makes, together with what
    `Q` has to allow where `build` gives up (`diverged`) or the lookup fails (`schema`). -/
structure Closed (E : Env) (Q : Res → Prop) (Ok : Nat → Call → Prop) : Prop where
  zero : ∀ call, Ok 0 call → Q (Res.error .diverged)
  bad : ∀ n t d skip, Ok (n+1) (.isAllowed t d skip) → ¬ d ≤ 0 →
    astRelationFor E.cfg t.ns t.rel = .bad → Q (Res.error .schema)
  isAllowed_rw : ∀ n t d skip, Ok (n+1) (.isAllowed t d skip) → ¬ d ≤ 0 →
    ∀ R rw, astRelationFor E.cfg t.ns t.rel = .rel R → R.rewrite = some rw → Ok n (.rewrite t rw d)
  isAllowed_exp : ∀ n t d skip, Ok (n+1) (.isAllowed t d skip) → ¬ d ≤ 0 →
    ∀ n' o r, (⟨t.ns, t.obj, t.rel, .set n' o r⟩ : Tuple) ∈ E.T → Ok n (.isAllowed ⟨n', o, r, t.sub⟩ (d - 1) true)
  rewrite_sc : ∀ n t rw d, Ok (n+1) (.rewrite t rw d) → ¬ d ≤ 0 →
    ∀ r, Child.computed r ∈ rw.children → Ok n (.isAllowed { t with rel := r } (d - 1) true)
  rewrite_ch : ∀ n t rw d, Ok (n+1) (.rewrite t rw d) → ¬ d ≤ 0 →
    ∀ ch, ch ∈ rw.children → Ok n (.child t ch d false)
  ttu : ∀ n t rel crel d inv, Ok (n+1) (.child t (.ttu rel crel) d inv) → ¬ d < 0 →
    ∀ n' o r, (⟨t.ns, t.obj, rel, .set n' o r⟩ : Tuple) ∈ E.T → Ok n (.isAllowed ⟨n', o, crel, t.sub⟩ (d - 1) false)
  computed : ∀ n t rel d inv, Ok (n+1) (.child t (.computed rel) d inv) → ¬ d < 0 →
    Ok n (.isAllowed { t with rel := rel } (d - 1) false)
  crewrite : ∀ n t op cs d inv, Ok (n+1) (.child t (.rewrite op cs) d inv) →
    Ok n (.rewrite t ⟨op, cs⟩ (if inv then d else d - 1))
  cinvert : ∀ n t c d inv, Ok (n+1) (.child t (.invert c) d inv) → Ok n (.invert t c d)
  invert : ∀ n t c d, Ok (n+1) (.invert t c d) → ¬ d < 0 → Ok n (.child t c d true)

theorem Yields.inv {Q : Res → Prop} (hQ : QOk2 Q) {E : Env} {Ok : Nat → Call → Prop} (hC : Closed E Q Ok)
    {n : Nat} {call : Call} {x : Res} (h : Yields E n call x) : Ok n call → Q x := by
  induction h with
  | diverged call => exact hC.zero call
  | unk => exact fun _ => hQ.unk
  | nm => exact fun _ => hQ.nm
  | storage => exact fun _ => hQ.storage
  | schema hd hlk => exact fun hok => hC.bad _ _ _ _ hok hd hlk
  | direct | expandAny | shortcut | andAll => exact fun _ => hQ.isM
  | viaRewrite hd hR hrw _ ih => exact fun hok => ih (hC.isAllowed_rw _ _ _ _ hok hd _ _ hR hrw)
  | viaExpand hd hm _ ih => exact fun hok => ih (hC.isAllowed_exp _ _ _ _ hok hd _ _ _ hm)
  | viaShortcut hd hr _ ih => exact fun hok => ih (hC.rewrite_sc _ _ _ _ hok hd _ hr)
  | or hd hm _ ih => exact fun hok => ih (hC.rewrite_ch _ _ _ _ hok hd _ hm)
  | andFail hd hm _ ih => exact fun hok => hQ.and _ (ih (hC.rewrite_ch _ _ _ _ hok hd _ hm))
  | ttu hd hm _ ih => exact fun hok => ih (hC.ttu _ _ _ _ _ _ hok hd _ _ _ hm)
  | computed hd _ ih => exact fun hok => ih (hC.computed _ _ _ _ _ hok hd)
  | crewrite _ ih => exact fun hok => ih (hC.crewrite _ _ _ _ _ _ hok)
  | cinvert _ ih => exact fun hok => ih (hC.cinvert _ _ _ _ _ hok)
  | invert hd _ ih => exact fun hok => hQ.inv _ (ih (hC.invert _ _ _ _ hok hd))

theorem build_inv {Q : Res → Prop} (hQ : QOk2 Q) (E : Env) {Ok : Nat → Call → Prop} (hC : Closed E Q Ok)
    (fuel : Nat) (call : Call) (ctx : Ctx) (w : World) (hok : Ok fuel call) : TInv Q (build E fuel call ctx w).1 :=
  fun c' w' => (build_yields E fuel call ctx w c' w').inv hQ hC hok

/-- Whatever thunk `build` returns (negation included): a result that carries an error
    is never `isMember`. -/
theorem build_err_not_member (E : Env) :
    ∀ (fuel : Nat) (call : Call) (ctx : Ctx) (w : World) (c' : Ctx) (w' : World),
      ((build E fuel call ctx w).1 c' w').1.err.isSome →
        ((build E fuel call ctx w).1 c' w').1.memb ≠ .isMember :=
  fun fuel call ctx w c' w' => (build_yields E fuel call ctx w c' w').err_not_member

theorem Yields.sound {E : Env} (hc : Cfg.pos E.cfg) {n : Nat} {call : Call} {x : Res} (h : Yields E n call x) :
    call.pos = true → QS (call.Spec E.cfg E.T) x := by
  induction h with
  | diverged | unk | nm | storage | schema | andFail => intro _ h; cases h
  | direct _ hm => exact fun _ _ => .direct _ hm
  | expandAny _ h1 h2 => exact fun _ _ => .expand _ _ _ _ h1 (.direct _ h2)
  | viaRewrite _ hR hrw _ ih => exact fun _ hx => .rewrite _ _ _ hR hrw (ih (hc _ _ _ _ hR hrw) hx)
  | viaExpand _ hm _ ih => exact fun _ hx => .expand _ _ _ _ hm (ih rfl hx)
  | shortcut _ hr hm => exact fun _ _ => .or _ _ _ hr (.computed _ _ (.direct _ hm))
  | viaShortcut _ hr _ ih => exact fun _ hx => .or _ _ _ hr (.computed _ _ (ih rfl hx))
  | or _ hm _ ih => exact fun hp hx => .or _ _ _ hm (ih (posList_mem hp hm) hx)
  | andAll _ hne _ ih => exact fun hp _ => .and _ _ hne (fun ch hm => ih ch hm (posList_mem hp hm) rfl)
  | ttu _ hm _ ih => exact fun _ hx => .ttu _ _ _ _ _ _ hm (ih rfl hx)
  | computed _ _ ih => exact fun _ hx => .computed _ _ (ih rfl hx)
  | crewrite _ ih => exact ih
  | cinvert | invert => intro hp; cases hp

theorem build_sound (E : Env) (hc : Cfg.pos E.cfg) :
    ∀ (fuel : Nat) (call : Call) (ctx : Ctx) (w : World), call.pos = true →
      SoundT (call.Spec E.cfg E.T) (build E fuel call ctx w).1 :=
  fun fuel call ctx w hp c' w' => (build_yields E fuel call ctx w c' w').sound hc hp

theorem Cfg.pos_of_posB {c : Cfg} (h : c.posB = true) : c.pos := by
  intro ns rel R rw hR hrw
  obtain ⟨N, hN, _, hRN, _⟩ := astRelationFor_rel hR
  have h3 := List.all_eq_true.1 (List.all_eq_true.1 h N hN) R hRN
  rw [hrw] at h3
  exact h3

end Keto
