/-
  Source positions for C12: `toSrcPos` is monotone and bounded by the number of rows, and `Error()` stays in range.
-/
import Keto.Proofs.OplLexLemmas
import Keto.Proofs.OplParseLemmas

namespace Keto.Opl
open Keto

/-- No overlong forms: the payload bits of the lead byte and of a second byte inside its accept range are not
    all zero where a shorter encoding exists. -/
theorem leadInfo_payload (c0 c1 : Nat) : (leadInfo c0).2.1 ≤ c1 → c1 ≤ (leadInfo c0).2.2 →
    ((leadInfo c0).1 = 2 → 2 ≤ c0 % 32) ∧ ((leadInfo c0).1 = 3 → 32 ≤ (c0 % 16) * 64 + c1 % 64) ∧
    ((leadInfo c0).1 = 4 → 16 ≤ (c0 % 8) * 64 + c1 % 64) := by
  fun_cases leadInfo c0
  all_goals
    simp only [beq_iff_eq] at *
    omega

/-- Left: a byte below 0x80. Right: a multi-byte sequence or an invalid one. -/
theorem decodeBytes_ascii (avail c0 c1 c2 c3 : Nat) :
    decodeBytes avail c0 c1 c2 c3 = (c0, 1) ∨ 0x80 ≤ (decodeBytes avail c0 c1 c2 c3).1 := by
  have hl := leadInfo_cases c0
  have hp := leadInfo_payload c0 c1
  fun_cases decodeBytes avail c0 c1 c2 c3 with
  | case1 => exact .inl rfl
  | case2 | case3 | case4 | case6 | case8 => exact .inr (by decide)
  | case5 | case7 | case9 =>
    simp +zetaDelta only [beq_iff_eq, Nat.not_lt, Nat.not_le, Bool.or_eq_true, decide_eq_true_eq, not_or] at *
    omega

theorem decodeRuneL_nl (a : UInt8) (tl : List UInt8) (h : (decodeRuneL (a :: tl)).1 = 10) :
    a = 10 ∧ (decodeRuneL (a :: tl)).2 = 1 := by
  have key (n c1 c2 c3 : Nat) (h : (decodeBytes n a.toNat c1 c2 c3).1 = 10) :
      a = 10 ∧ (decodeBytes n a.toNat c1 c2 c3).2 = 1 := by
    rcases decodeBytes_ascii n a.toNat c1 c2 c3 with he | hge
    · rw [he] at h ⊢
      exact ⟨UInt8.toNat_inj.1 h, rfl⟩
    · omega
  match tl with
  | [] | [_] | [_, _] | _ :: _ :: _ :: _ => exact key _ _ _ _ h

theorem rowCount_drop_le (s : List UInt8) (k : Nat) : rowCount (s.drop k) ≤ rowCount s :=
  Nat.succ_le_succ ((List.drop_sublist k s).filter _).length_le

theorem srcLoop_line_bounds (n : Nat) (rest : List UInt8) (pos line col : Nat) :
    line ≤ (srcLoop n rest pos line col).line ∧ (srcLoop n rest pos line col).line < line + rowCount rest := by
  fun_induction srcLoop n rest pos line col with
  | case1 | case2 => exact ⟨Nat.le_refl _, Nat.lt_add_of_pos_right (Nat.succ_pos _)⟩
  | case3 _ _ _ _ _ _ hp =>
    rw [if_pos hp]
    exact ⟨Nat.le_refl _, Nat.lt_add_of_pos_right (Nat.succ_pos _)⟩
  | case4 n pos line col a tl hp rw hnl ih =>
    -- a newline: one row fewer ahead
    rw [if_neg hp, if_pos hnl]
    obtain ⟨ha, hw⟩ : a = 10 ∧ rw.2 = 1 := decodeRuneL_nl a tl (beq_iff_eq.1 hnl)
    have hc : rowCount (a :: tl) = rowCount ((a :: tl).drop rw.2) + 1 := by
      rw [hw, ha]
      rfl
    exact ⟨Nat.le_trans (Nat.le_succ _) ih.1, Nat.lt_of_lt_of_le ih.2 (by omega)⟩
  | case5 n pos line col a tl hp rw hnl ih =>
    rw [if_neg hp, if_neg hnl]
    exact ⟨ih.1, Nat.lt_of_lt_of_le ih.2 (Nat.add_le_add_left (rowCount_drop_le ..) _)⟩

theorem srcLoop_line_mono (n : Nat) (rest : List UInt8) (pos pos' line col col' : Nat) (h : pos ≤ pos') :
    (srcLoop n rest pos line col).line ≤ (srcLoop n rest pos' line col').line := by
  fun_induction srcLoop n rest pos line col generalizing pos' col' with
  | case1 | case2 => simp [srcLoop]
  | case3 _ _ _ _ _ _ hp =>
    rw [if_pos hp]
    exact (srcLoop_line_bounds ..).1
  | case4 n pos line col a tl hp rw hnl ih =>
    rw [srcLoop, if_neg hp, if_neg (by omega : ¬ pos' ≤ 1), if_pos hnl, if_pos hnl]
    exact ih (pos' - 1) _ (by omega)
  | case5 n pos line col a tl hp rw hnl ih =>
    rw [srcLoop, if_neg hp, if_neg (by omega : ¬ pos' ≤ 1), if_neg hnl, if_neg hnl]
    exact ih (pos' - 1) _ (by omega)

theorem toSrcPos_line (s : List UInt8) (pos : Nat) :
    1 ≤ (toSrcPos s pos).line ∧ (toSrcPos s pos).line ≤ rowCount s := by
  have := srcLoop_line_bounds s.length s pos 1 0
  unfold toSrcPos
  omega

theorem toSrcPos_mono (s : List UInt8) (a b : Nat) (h : a ≤ b) : (toSrcPos s a).line ≤ (toSrcPos s b).line :=
  srcLoop_line_mono s.length s a b 1 0 0 h

/-- `Error()` never indexes `rows` out of range. -/
theorem renderError_no_panic (s : List UInt8) (e : PErr) : (renderError s e).panic = false := by
  have h := toSrcPos_line s e.start
  fun_cases renderError s e with
  | case2 => omega
  | case1 | case3 | case4 => rfl

theorem lex_items_inRange (s : List UInt8) : ∀ i ∈ (lex s.toArray).items, okI (Pos.inRange s.length) i :=
  fun i hi => by simpa [okI, Pos.inRange, itemOk] using (lex_ok s.toArray).2.1 i hi

end Keto.Opl
