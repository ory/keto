/-
  Exactness of the engine model for ALL configurations, part 3: the two ways `build` delivers an
  outcome (`EagerX`: while the check is constructed; `LazyX`: when the thunk is run) and the two steps
  of `checkIsAllowed` that are functions of their own: the direct lookup (`directStep_x`) and the
  subject-set expansion (`expandRun_x`, the depth-first search with the visited set).
-/
import Keto.Proofs.EngineExactLoops

namespace Keto

/-- Outcome of a call that is evaluated while the check is constructed: the thunk is a constant
    and the construction is the run. -/
def EagerX (E : Env) (sub : Subject) (PT : Prop) (PF : List VKey → Prop) (c : Ctx) (w : World)
    (bw : Thunk × World) : Prop :=
  ∃ res, bw.1 = constT res ∧ RunX E sub PT PF c w (res, bw.2)

/-- Outcome of a call that does its work when the thunk is run: the construction leaves every
    existing visited set alone. -/
structure LazyX (E : Env) (sub : Subject) (PT : Prop) (PF : List VKey → Prop) (w : World)
    (bw : Thunk × World) : Prop where
  frame : Frame none w bw.2
  thunk : ThunkX E sub PT PF bw.2.limitHits bw.1

theorem EagerX.runB {E : Env} {sub : Subject} {PT : Prop} {PF : List VKey → Prop} {c : Ctx} {w : World}
    {bw : Thunk × World} (h : EagerX E sub PT PF c w bw) : RunX E sub PT PF c w (runB bw c) := by
  obtain ⟨res, he, hr⟩ := h
  unfold Keto.runB
  rw [he]
  exact hr

theorem LazyX.runB {E : Env} {sub : Subject} {PT : Prop} {PF : List VKey → Prop} {c : Ctx} {w : World}
    {bw : Thunk × World} (h : LazyX E sub PT PF w bw) (hv : Valid c w) : RunX E sub PT PF c w (runB bw c) :=
  (h.thunk c _ (hv.frame h.frame) (Nat.le_refl _)).of_frame h.frame hv

theorem EagerX.imp {E : Env} {sub : Subject} {PT PT' : Prop} {PF PF' : List VKey → Prop} {c : Ctx} {w : World}
    {bw : Thunk × World} (h : EagerX E sub PT PF c w bw) (hT : PT → PT') (hF : ∀ V, PF V → PF' V) :
    EagerX E sub PT' PF' c w bw := by
  obtain ⟨res, he, hr⟩ := h
  exact ⟨res, he, hr.imp hT hF⟩

/-- "every subject set of the relation is marked in `V` or dead w.r.t. `V`" -/
def FExpand (E : Env) (t : Tuple) (V : List VKey) : Prop :=
  ∀ n o r, (⟨t.ns, t.obj, t.rel, .set n o r⟩ : Tuple) ∈ E.T →
    (n, o, r) ∈ V ∨ DeadF E.cfg E.T t.sub V (n, o, r)

theorem expandRun_x (E : Env) (rec : Tuple → Ctx → World → Res × World)
    (t : Tuple) (ctx : Ctx) (w : World) (hv : Valid ctx w)
    (hrec : ∀ n o r, (⟨t.ns, t.obj, t.rel, .set n o r⟩ : Tuple) ∈ E.T → (⟨n, o, r, t.sub⟩ : Tuple) ∉ E.T →
      ∀ c w, Valid c w →
        RunX E t.sub (Tr E.cfg E.T ⟨n, o, r, t.sub⟩) (FM E ⟨n, o, r, t.sub⟩) c w (rec ⟨n, o, r, t.sub⟩ c w)) :
    RunX E t.sub (Tr E.cfg E.T t) (FExpand E t) ctx w (expandRun E rec t ctx w) := by
  obtain ⟨⟨r0, hr0⟩, hvc⟩ := initVisited_ok ctx w hv
  unfold expandRun
  extract_lets cw fw sets over w2 sets' gw
  refine RunX.of_initVisited (RunX.of_call ?_)
  split
  · exact RunX.of_err (Frame.refl _ _) .storage rfl
  split
  · next hany =>
    obtain ⟨⟨n, o, r⟩, hs, hc⟩ := List.any_eq_true.1 hany
    exact RunX.of_isM (Frame.refl _ _) rfl
      (.expand (mem_subjectSetsOf.1 hs) (.direct (List.contains_iff_mem.1 hc)))
  · next hany =>
    have hsub' : ∀ s, s ∈ sets' → s ∈ sets := fun _ hs => mem_of_mem_widthCut hs
    have hv2 : Valid cw.1 w2 := by
      simp only [w2]
      split
      · exact (hvc.frame (Frame.ofCall none E _)).frame (Frame.ofLim none _)
      · exact hvc.frame (Frame.ofCall none E _)
    have hloop : RunX E t.sub (Tr E.cfg E.T t) (fun V => ∀ s, s ∈ sets' → s ∈ V ∨ DeadF E.cfg E.T t.sub V s) cw.1 w2
        (gResult gw.1, gw.2) := by
      show RunX _ _ _ _ _ _
        (gResult (expandLoop rec t.sub sets' none cw.1 w2).1, (expandLoop rec t.sub sets' none cw.1 w2).2)
      rw [expandLoop_eq]
      refine gRun_x (PF := fun s V => s ∈ V ∨ DeadF E.cfg E.T t.sub V s) (fun s _ _ hext h => hext.mem_or_dead h)
        hv2 (fun s hs w' hv' => expandStep_x hr0 hv' (fun w'' hv'' => ?_))
      have hs' := mem_subjectSetsOf.1 (hsub' s hs)
      refine (hrec s.1 s.2.1 s.2.2 hs' (fun hm => hany ?_) cw.1 w'' hv'').imp (.expand hs') (fun _ h => h)
      exact List.any_eq_true.2 ⟨s, hsub' s hs, List.contains_iff_mem.2 hm⟩
    -- more subject sets than `max_read_width`: a limit event, and only some of them were looked at
    cases hover : over with
    | true =>
      simp only [w2, hover, if_true] at hloop
      exact RunX.of_lim ((Frame.ofLim _ _).trans hloop.frame)
        (Nat.ne_of_gt (Nat.lt_of_lt_of_le (Nat.succ_pos _) hloop.frame.lim))
    | false =>
      simp only [w2, sets', hover, Bool.false_eq_true, if_false] at hloop
      exact hloop.imp id (fun V h n o r hT => h _ (mem_subjectSetsOf.2 hT))

theorem directStep_x {E : Env} {PT : Prop} {PF : List VKey → Prop} {c : Ctx} {w0 : World} {gw : Option Res × World}
    (t : Tuple) (d : Int) (h : GroupX E t.sub PT PF c w0 gw) (hPT : t ∈ E.T → PT) :
    GroupX E t.sub PT (fun V => PF V ∧ t ∉ E.T) c w0 (directStep E t d gw.1 gw.2) := by
  obtain ⟨g, w⟩ := gw
  fun_cases directStep E t d g w with
  | case1 => exact h.lim
  | case2 => exact h.decided rfl (Frame.refl _ _)
  | case3 => exact h.fault
  | case4 =>
    by_cases hc : E.T.contains t = true
    · rw [if_pos hc]
      exact h.add (PF' := fun _ => t ∉ E.T) (out := (Res.isM, (w.call E).2))
        (RunX.of_isM (Frame.ofCall _ E w) rfl (hPT (List.contains_iff_mem.1 hc))) (fun _ _ _ hp => hp)
    · rw [if_neg hc]
      exact h.add (PF' := fun _ => t ∉ E.T) (RunX.of_skip (fun hm => hc (List.contains_iff_mem.2 hm))).of_call
        (fun _ _ _ hp => hp)

end Keto
