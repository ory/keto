/-
  Lemmas for C18 (relationship encodings): `cut`, `contains`, parenthesis trimming; the two
  directions of the string form (the parsers are inverted once, by the `…_shape` lemmas); lookups in
  `url.Values`; the JSON decoders on one encoded field.
-/
import Keto.Model.Encoding

namespace Keto.Enc

theorem contains_append (sep : Char) (a b : Str) :
    contains sep (a ++ b) = (contains sep a || contains sep b) := by
  induction a with
  | nil => rfl
  | cons c cs ih => simp only [List.cons_append, contains, ih, Bool.or_assoc]

theorem contains_cons (sep c : Char) (s : Str) :
    contains sep (c :: s) = (c == sep || contains sep s) := rfl

theorem cut_append {sep : Char} {a : Str} (b : Str) (h : contains sep a = false) :
    cut sep (a ++ sep :: b) = some (a, b) := by
  induction a with
  | nil => simp [cut]
  | cons c cs ih =>
    simp only [contains, Bool.or_eq_false_iff, beq_eq_false_iff_ne, ne_eq] at h
    simp [cut, h.1, ih h.2]

theorem cut_eq_none_iff {sep : Char} {s : Str} : cut sep s = none ↔ contains sep s = false := by
  fun_induction cut sep s <;> simp_all [contains]

theorem cut_some {sep : Char} {s a b : Str} (h : cut sep s = some (a, b)) :
    contains sep a = false ∧ s = a ++ sep :: b := by
  fun_induction cut sep s generalizing a with
  | case1 => cases h
  | case2 cs => cases h; exact ⟨rfl, rfl⟩
  | case3 c cs hc hr => cases h
  | case4 c cs hc a' b' hr ih =>
    cases h
    obtain ⟨h1, rfl⟩ := ih hr
    exact ⟨by simp [contains, hc, h1], rfl⟩

theorem isParen_colon : isParen ':' = false := by decide
theorem isParen_hash : isParen '#' = false := by decide

theorem startsParen_append {a : Str} (b : Str) (h : a ≠ []) :
    startsParen (a ++ b) = startsParen a := by
  cases a with
  | nil => exact absurd rfl h
  | cons c cs => rfl

theorem startsParen_append_sep {c : Char} (hc : isParen c = false) (a b : Str) :
    startsParen (a ++ c :: b) = startsParen a := by
  cases a with
  | nil => exact hc
  | cons d ds => rfl

theorem endsParen_append_sep {c : Char} (hc : isParen c = false) (a b : Str) :
    endsParen (a ++ c :: b) = endsParen b := by
  induction a with
  | nil => cases b <;> simp [endsParen, hc]
  | cons d ds ih => rw [← ih]; cases ds <;> rfl

theorem endsParen_cons (c : Char) (s : Str) :
    endsParen (c :: s) = if s = [] then isParen c else endsParen s := by
  cases s <;> simp [endsParen]

theorem trimLeft_id {s : Str} (h : startsParen s = false) : trimLeft s = s := by
  cases s <;> simp_all [trimLeft, startsParen]

theorem trimRight_id {s : Str} (h : endsParen s = false) : trimRight s = s := by
  induction s with
  | nil => rfl
  | cons c cs ih =>
    rw [endsParen_cons] at h
    rw [trimRight]
    cases cs with
    | nil => simp_all [trimRight]
    | cons d ds => simp_all

theorem trimParens_id {s : Str} (h1 : startsParen s = false) (h2 : endsParen s = false) :
    trimParens s = s := by
  rw [trimParens, trimLeft_id h1, trimRight_id h2]

theorem startsParen_trimLeft (s : Str) : startsParen (trimLeft s) = false := by
  fun_induction trimLeft s <;> simp_all [startsParen]

theorem startsParen_trimRight {s : Str} (h : startsParen s = false) :
    startsParen (trimRight s) = false := by
  fun_cases trimRight s <;> simp_all [startsParen]

theorem startsParen_trimParens (s : Str) : startsParen (trimParens s) = false :=
  startsParen_trimRight (startsParen_trimLeft s)

theorem endsParen_trimParens (s : Str) : endsParen (trimParens s) = false := by
  rw [trimParens]
  fun_induction trimRight (trimLeft s) <;> simp_all [endsParen_cons, endsParen]

theorem length_trimParens_le (s : Str) : (trimParens s).length ≤ s.length := by
  have hl : (trimLeft s).length ≤ s.length := by fun_induction trimLeft s <;> simp <;> omega
  have hr : ∀ r : Str, (trimRight r).length ≤ r.length := fun r => by
    fun_induction trimRight r <;> simp_all <;> omega
  exact Nat.le_trans (hr _) hl

theorem SubjectSet.toStr_rel_nil {ss : SubjectSet} (h : ss.rel = []) : ss.toStr = ss.ns ++ ':' :: ss.obj := by
  rw [SubjectSet.toStr, if_pos h]

theorem SubjectSet.toStr_rel_ne {ss : SubjectSet} (h : ss.rel ≠ []) :
    ss.toStr = (ss.ns ++ ':' :: ss.obj) ++ '#' :: ss.rel := by
  rw [SubjectSet.toStr, if_neg h, List.append_assoc, List.cons_append]

theorem SubjectSet.toStr_dom (ss : SubjectSet) (h : DomSubjectSet ss = true) :
    startsParen ss.toStr = false ∧ endsParen ss.toStr = false ∧
    contains ':' ss.toStr = true ∧ SubjectSet.fromStr ss.toStr = .ok ss := by
  obtain ⟨ns, obj, rel⟩ := ss
  simp only [DomSubjectSet, Bool.and_eq_true, Bool.not_eq_true'] at h
  obtain ⟨⟨⟨⟨h1, h2⟩, h3⟩, h4⟩, h5⟩ := h
  have hno : contains '#' (ns ++ ':' :: obj) = false := by
    simp [contains_append, contains_cons, h2, h4]
  by_cases hr : rel = []
  · subst hr
    rw [SubjectSet.toStr_rel_nil (ss := ⟨ns, obj, []⟩) rfl]
    simp only [SubjectSet.fromStr, cut_eq_none_iff.mpr hno, cut_append obj h1,
      startsParen_append_sep isParen_colon, endsParen_append_sep isParen_colon, contains_append,
      contains, h3]
    simpa using h5
  · rw [SubjectSet.toStr_rel_ne (ss := ⟨ns, obj, rel⟩) hr]
    simp only [SubjectSet.fromStr, cut_append rel hno, cut_append obj h1, endsParen_append_sep isParen_hash]
    simp only [List.append_assoc, List.cons_append, startsParen_append_sep isParen_colon, contains_append,
      contains, h3]
    simpa [hr] using h5

theorem SubjectSet.fromStr_shape {s : Str} {ss : SubjectSet} (h : SubjectSet.fromStr s = .ok ss) :
    contains ':' ss.ns = false ∧ contains '#' (ss.ns ++ ':' :: ss.obj) = false ∧
    (s = ss.ns ++ ':' :: ss.obj ∧ ss.rel = [] ∨ s = (ss.ns ++ ':' :: ss.obj) ++ '#' :: ss.rel) := by
  cases hc : cut '#' s with
  | none =>
    simp only [SubjectSet.fromStr, hc] at h
    split at h
    · cases h
    · next ns obj hc2 =>
      cases h
      obtain ⟨hns, rfl⟩ := cut_some hc2
      exact ⟨hns, cut_eq_none_iff.mp hc, .inl ⟨rfl, rfl⟩⟩
  | some p =>
    obtain ⟨a, b⟩ := p
    obtain ⟨hna, rfl⟩ := cut_some hc
    simp only [SubjectSet.fromStr, hc] at h
    split at h
    · cases h
    · next ns obj hc2 =>
      cases h
      obtain ⟨hns, rfl⟩ := cut_some hc2
      exact ⟨hns, hna, .inr rfl⟩

/-- The second alternative is the trim class (`…:obj)#`, finding F-trim). -/
theorem SubjectSet.fromStr_dom_or_trim {s : Str} {ss : SubjectSet}
    (hs : startsParen s = false) (he : endsParen s = false)
    (h : SubjectSet.fromStr s = .ok ss) :
    DomSubjectSet ss = true ∨ (ss.rel = [] ∧ endsParen ss.obj = true) := by
  obtain ⟨ns, obj, rel⟩ := ss
  obtain ⟨hns, hno, hshape⟩ := SubjectSet.fromStr_shape h
  simp only [contains_append, contains_cons, Bool.or_eq_false_iff] at hno
  rcases hshape with ⟨rfl, hr⟩ | rfl
  · rw [startsParen_append_sep isParen_colon] at hs
    rw [endsParen_append_sep isParen_colon] at he
    simp only at hr
    left; simp [DomSubjectSet, hns, hno.1, hno.2.2, hs, he, hr]
  · simp only [List.append_assoc, List.cons_append, startsParen_append_sep isParen_colon] at hs
    rw [endsParen_append_sep isParen_hash] at he
    by_cases hb : rel = []
    · cases hobj : endsParen obj with
      | true => exact .inr ⟨hb, rfl⟩
      | false => left; simp [DomSubjectSet, hns, hno.1, hno.2.2, hs, hb, hobj]
    · left; simp [DomSubjectSet, hns, hno.1, hno.2.2, hs, hb, he]

theorem RelationTuple.fromStr_toStr_eq_subjectFromStr (t : RelationTuple)
    (h1 : contains ':' t.ns = false) (h2 : contains '#' t.obj = false)
    (h3 : contains '@' t.rel = false) :
    RelationTuple.fromStr t.toStr = subjectFromStr t.ns t.obj t.rel t.subjectStr := by
  simp only [RelationTuple.fromStr, RelationTuple.toStr, cut_append _ h1, cut_append _ h2, cut_append _ h3]

theorem RelationTuple.fromStr_shape {s : Str} {t : RelationTuple} (h : RelationTuple.fromStr s = .ok t) :
    ∃ ns obj rel subject, s = ns ++ ':' :: (obj ++ '#' :: (rel ++ '@' :: subject)) ∧
      contains ':' ns = false ∧ contains '#' obj = false ∧ contains '@' rel = false ∧
      subjectFromStr ns obj rel subject = .ok t := by
  revert h
  fun_cases RelationTuple.fromStr s <;> intro h
  case case4 ns r1 c1 obj r2 c2 rel subject c3 =>
    obtain ⟨k1, rfl⟩ := cut_some c1
    obtain ⟨k2, rfl⟩ := cut_some c2
    obtain ⟨k3, rfl⟩ := cut_some c3
    exact ⟨ns, obj, rel, subject, rfl, k1, k2, k3, h⟩
  all_goals cases h

theorem subjectFromStr_ok {ns obj rel subject : Str} {t : RelationTuple}
    (h : subjectFromStr ns obj rel subject = .ok t) :
    (∃ ss, SubjectSet.fromStr (trimParens subject) = .ok ss ∧ t = ⟨ns, obj, rel, none, some ss⟩) ∨
    (contains ':' (trimParens subject) = false ∧ t = ⟨ns, obj, rel, some (trimParens subject), none⟩) := by
  revert h
  fun_cases subjectFromStr ns obj rel subject <;> intro h <;> cases h
  case case2 _ ss hss => exact .inl ⟨ss, hss, rfl⟩
  case case3 hc => exact .inr ⟨Bool.not_eq_true _ ▸ hc, rfl⟩

theorem RelationTuple.fromStr_toStr (t : RelationTuple) (h : DomString t = true) :
    RelationTuple.fromStr t.toStr = .ok t := by
  obtain ⟨ns, obj, rel, sid, sset⟩ := t
  simp only [DomString, Bool.and_eq_true, Bool.not_eq_true'] at h
  obtain ⟨⟨⟨h1, h2⟩, h3⟩, h4⟩ := h
  rw [RelationTuple.fromStr_toStr_eq_subjectFromStr _ h1 h2 h3]
  rcases sid with _ | s <;> rcases sset with _ | ss <;> simp only [Bool.false_eq_true] at h4
  · obtain ⟨f1, f2, f3, f4⟩ := SubjectSet.toStr_dom ss h4
    simp [RelationTuple.subjectStr, subjectFromStr, trimParens_id f1 f2, f3, f4]
  · simp only [DomSubjectID, Bool.and_eq_true, Bool.not_eq_true'] at h4
    simp [RelationTuple.subjectStr, subjectFromStr, trimParens_id h4.1.2 h4.2, h4.1.1]

theorem RelationTuple.fromStr_dom_or_trim {s : Str} {t : RelationTuple}
    (h : RelationTuple.fromStr s = .ok t) : DomString t = true ∨ TrimClass t = true := by
  obtain ⟨ns, obj, rel, subject, -, k1, k2, k3, hsub⟩ := RelationTuple.fromStr_shape h
  have hs := startsParen_trimParens subject
  have he := endsParen_trimParens subject
  rcases subjectFromStr_ok hsub with ⟨ss, hss, rfl⟩ | ⟨hc, rfl⟩
  · rcases SubjectSet.fromStr_dom_or_trim hs he hss with hd | ⟨hr, ho⟩
    · left; simp [DomString, k1, k2, k3, hd]
    · right; simp [TrimClass, hr, ho]
  · left; simp [DomString, DomSubjectID, k1, k2, k3, hc, hs, he]

theorem trim_reparse_ne (t : RelationTuple) (hc : TrimClass t = true) :
    RelationTuple.fromStr t.toStr ≠ .ok t := by
  intro h
  obtain ⟨ns, obj, rel, subject, -, k1, k2, k3, hsub⟩ := RelationTuple.fromStr_shape h
  have ht : t.ns = ns ∧ t.obj = obj ∧ t.rel = rel := by
    rcases subjectFromStr_ok hsub with ⟨_, _, rfl⟩ | ⟨_, rfl⟩ <;> exact ⟨rfl, rfl, rfl⟩
  -- the printed string is cut where it was glued
  rw [RelationTuple.fromStr_toStr_eq_subjectFromStr t (ht.1 ▸ k1) (ht.2.1 ▸ k2) (ht.2.2 ▸ k3)] at h
  obtain ⟨tns, tobj, trel, sid, sset⟩ := t
  rcases subjectFromStr_ok h with ⟨⟨a, b, c⟩, hparse, e⟩ | ⟨_, e⟩
  · obtain ⟨-, -, -, rfl, rfl⟩ := RelationTuple.mk.inj e
    simp only [TrimClass, Bool.and_eq_true, decide_eq_true_eq] at hc
    obtain ⟨rfl, ho⟩ := hc
    have hstr : RelationTuple.subjectStr ⟨tns, tobj, trel, none, some ⟨a, b, []⟩⟩ = a ++ ':' :: b :=
      SubjectSet.toStr_rel_nil rfl
    rw [hstr] at hparse
    -- the re-parsed text is `a:b` or `a:b#`: trimming leaves no closing parenthesis and adds nothing
    rcases (SubjectSet.fromStr_shape hparse).2.2 with ⟨e, -⟩ | e
    · have := endsParen_trimParens (a ++ ':' :: b)
      rw [e, endsParen_append_sep isParen_colon, ho] at this
      cases this
    · have := length_trimParens_le (a ++ ':' :: b)
      rw [e, List.length_append] at this
      exact Nat.not_succ_le_self _ this
  · obtain ⟨-, -, -, -, rfl⟩ := RelationTuple.mk.inj e
    simp [TrimClass] at hc

theorem Values.has_eq (v : Values) (k : Str) : v.has k = (optGet v k).isSome := by
  unfold optGet; cases v.has k <;> rfl

theorem optGet_nil (k : Str) : optGet [] k = none := rfl

theorem optGet_cons (p : Str × Str) (r : Values) (k : Str) :
    optGet (p :: r) k = if p.1 = k then some p.2 else optGet r k := by
  simp only [optGet, Values.has, Values.get, beq_iff_eq]
  by_cases h : p.1 = k <;> simp [h]

theorem Values.get_eq (v : Values) (k : Str) : v.get k = (optGet v k).getD [] := by
  induction v with
  | nil => rfl
  | cons p r ih => rw [optGet_cons, Values.get, ih]; by_cases h : p.1 = k <;> simp [h]

theorem optGet_append (a b : Values) (k : Str) : optGet (a ++ b) k = (optGet a k).or (optGet b k) := by
  induction a with
  | nil => rfl
  | cons p r ih => rw [List.cons_append, optGet_cons, optGet_cons, ih]; split <;> rfl

/-- `Get` returns the first value of a key: an `Add` is seen only if the key was not there before. -/
theorem optGet_optAdd (v : Values) (k' : Str) (o : Option Str) (k : Str) :
    optGet (optAdd v k' o) k = (optGet v k).or (if k' = k then o else none) := by
  cases o with
  | none => simp [optAdd]
  | some x => rw [optAdd, Values.add, optGet_append, optGet_cons, optGet_nil]

theorem optGet_add (v : Values) (k' x k : Str) :
    optGet (v.add k' x) k = (optGet v k).or (if k' = k then some x else none) :=
  optGet_optAdd v k' (some x) k

theorem decOptStr_str (s : Str) : decOptStr (.leaf (.str s)) = .ok (some s) := rfl

theorem decOptStr_jOptStr (o : Option Str) : decOptStr (jOptStr o) = .ok o := by cases o <;> rfl

theorem SubjectSet.decFields_toJSONFields (cur ss : SubjectSet) :
    SubjectSet.decFields cur ss.toJSONFields = .ok ss := by
  simp +decide [SubjectSet.toJSONFields, SubjectSet.decFields, decStr]

theorem decOptSet_toJSONFields (cur : Option SubjectSet) (ss : SubjectSet) :
    decOptSet cur (.obj ss.toJSONFields) = .ok (some ss) := by
  rw [decOptSet, SubjectSet.decFields_toJSONFields]

end Keto.Enc
