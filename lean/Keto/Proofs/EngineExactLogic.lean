/-
  Exactness of the engine model for ALL configurations (`!` included), part 1: pure logic (no engine).

  `FaE c T V t` / `HFaE c T V ch t`: finite-failure proofs ("`t` is provably not a member") shaped
  like the engine's depth-first search: the avoid set `V` (the visited set) is consulted ONLY at
  subject-set expansion steps, and it is the subject set that is expanded INTO that is pushed — the
  engine marks a subject set right before it evaluates it (`expandLoop`/`checkAndAdd`); computed
  subject sets and tuple-to-subject-set steps neither consult nor extend the visited set.
  Negation refers to the stratified semantics: `!ch` fails when `HTr … ch` holds.

  * `FaE.repl`: weakening (`FaE.mono_V`: a larger avoid set only adds cuts) and cut elimination in one
    recursion;
  * `DeadF` (a subject set the search marked, evaluated and found not to be a member) and `ExtF` (a
    visited set extended by dead nodes), with `ExtF.repl` (so a refutation w.r.t. `V1` gives one w.r.t.
    `V0`) and `ExtF.trans`;
  * conversion (`FaE.toFaA`): a refutation whose cuts are all on the current path is a refutation of
    the stratified semantics (`FaN` pushes every node and may cut at every node: more cuts allowed);
  * what strict mode needs (`faE_empty_rel`).
-/
import Keto.Model.Engine
import Keto.Spec.Membership
import Keto.Spec.Stratified
import Keto.Proofs.StratifiedLemmas
import Keto.Proofs.ConformsLemmas

namespace Keto

mutual
inductive FaE (c : Cfg) (T : List Tuple) : List VKey → Tuple → Prop where
  | node {V : List VKey} {t : Tuple} :
      t ∉ T → astRelationFor c t.ns t.rel ≠ .bad →
      (∀ n o r, (⟨t.ns, t.obj, t.rel, .set n o r⟩ : Tuple) ∈ T → (n, o, r) ∉ V →
        FaE c T ((n, o, r) :: V) ⟨n, o, r, t.sub⟩) →
      (∀ R rw, astRelationFor c t.ns t.rel = .rel R → R.rewrite = some rw →
        HFaE c T V (.rewrite rw.op rw.children) t) →
      FaE c T V t
inductive HFaE (c : Cfg) (T : List Tuple) : List VKey → Child → Tuple → Prop where
  | computed {V : List VKey} {t : Tuple} {rel : String} :
      FaE c T V { t with rel := rel } → HFaE c T V (.computed rel) t
  | ttu {V : List VKey} {t : Tuple} {rel crel : String} :
      (∀ n o r, (⟨t.ns, t.obj, rel, .set n o r⟩ : Tuple) ∈ T → FaE c T V ⟨n, o, crel, t.sub⟩) →
      HFaE c T V (.ttu rel crel) t
  | or {V : List VKey} {t : Tuple} {cs : List Child} :
      (∀ ch, ch ∈ cs → HFaE c T V ch t) → HFaE c T V (.rewrite .or cs) t
  | andNil {V : List VKey} {t : Tuple} : HFaE c T V (.rewrite .and []) t
  | and {V : List VKey} {t : Tuple} {cs : List Child} {ch : Child} :
      ch ∈ cs → HFaE c T V ch t → HFaE c T V (.rewrite .and cs) t
  | invert {V : List VKey} {t : Tuple} {ch : Child} : HTr c T ch t → HFaE c T V (.invert ch) t
end

variable {c : Cfg} {T : List Tuple}

/-- Every assumption of `V1` is an assumption of `V2`, or a node that is refuted under the
    assumptions `V2`, itself, and whatever else is assumed. -/
def Repl (c : Cfg) (T : List Tuple) (sub : Subject) (V1 V2 : List VKey) : Prop :=
  ∀ x, x ∈ V1 → x ∈ V2 ∨ ∀ W, (∀ y, y ∈ V2 → y ∈ W) → FaE c T (x :: W) ⟨x.1, x.2.1, x.2.2, sub⟩

theorem Repl.cons {sub : Subject} {V1 V2 : List VKey} (h : Repl c T sub V1 V2) (x : VKey) :
    Repl c T sub (x :: V1) (x :: V2) := by
  intro y hy
  cases hy with
  | head => exact Or.inl (List.mem_cons_self ..)
  | tail _ hy' =>
    cases h y hy' with
    | inl h2 => exact Or.inl (List.mem_cons_of_mem _ h2)
    | inr hd => exact Or.inr (fun W hW => hd W (fun z hz => hW z (List.mem_cons_of_mem _ hz)))

/- Weakening and cut elimination in one: assumptions may be replaced by other assumptions or by
   refutations of the assumed nodes (which may themselves assume the node: least fixpoint — a
   membership justified only through itself is no membership). -/
mutual
theorem FaE.repl {sub : Subject} : ∀ {V1 V2 : List VKey} {t : Tuple}, FaE c T V1 t → t.sub = sub →
    Repl c T sub V1 V2 → FaE c T V2 t
  | V1, V2, _, .node hnT hnb hexp hrw, hsub, hV =>
    .node hnT hnb
      (fun n o r hm hn => by
        by_cases hin : (n, o, r) ∈ V1
        · exact (hV _ hin).elim (fun h2 => absurd h2 hn) (fun hd => hsub ▸ hd V2 (fun _ hy => hy))
        · exact (hexp n o r hm hin).repl hsub (hV.cons _))
      (fun R rw h1 h2 => (hrw R rw h1 h2).repl hsub hV)
theorem HFaE.repl {sub : Subject} : ∀ {V1 V2 : List VKey} {ch : Child} {t : Tuple}, HFaE c T V1 ch t →
    t.sub = sub → Repl c T sub V1 V2 → HFaE c T V2 ch t
  | _, _, _, _, .computed h, hsub, hV => .computed (h.repl hsub hV)
  | _, _, _, _, .ttu h, hsub, hV => .ttu (fun n o r hm => (h n o r hm).repl hsub hV)
  | _, _, _, _, .or h, hsub, hV => .or (fun ch hm => (h ch hm).repl hsub hV)
  | _, _, _, _, .andNil, _, _ => .andNil
  | _, _, _, _, .and hm h, hsub, hV => .and hm (h.repl hsub hV)
  | _, _, _, _, .invert h, _, _ => .invert h
end

theorem FaE.mono_V {V V' : List VKey} {t : Tuple} (h : FaE c T V t) (hV : ∀ x, x ∈ V → x ∈ V') : FaE c T V' t :=
  h.repl rfl (fun x hx => Or.inl (hV x hx))

theorem HFaE.mono_V {V V' : List VKey} {ch : Child} {t : Tuple} (h : HFaE c T V ch t)
    (hV : ∀ x, x ∈ V → x ∈ V') : HFaE c T V' ch t :=
  h.repl rfl (fun x hx => Or.inl (hV x hx))

/-- Node `s` (for subject `sub`) is refuted under the assumptions `V` and `s` itself: what the
    engine establishes for a subject set it has marked, evaluated and found not to be a member. -/
def DeadF (c : Cfg) (T : List Tuple) (sub : Subject) (V : List VKey) (s : VKey) : Prop :=
  FaE c T (s :: V) ⟨s.1, s.2.1, s.2.2, sub⟩

/-- Every node of `V1` is in `V0` or dead w.r.t. `V0`. -/
def ExtF (c : Cfg) (T : List Tuple) (sub : Subject) (V0 V1 : List VKey) : Prop :=
  ∀ s, s ∈ V1 → s ∈ V0 ∨ DeadF c T sub V0 s

theorem ExtF.refl (sub : Subject) (V : List VKey) : ExtF c T sub V V :=
  fun _ h => Or.inl h

theorem ExtF.repl {sub : Subject} {V0 V1 : List VKey} (h : ExtF c T sub V0 V1) : Repl c T sub V1 V0 :=
  fun x hx => (h x hx).imp_right fun hd W hW => FaE.mono_V hd fun y hy => by
    cases hy with
    | head => exact List.mem_cons_self ..
    | tail _ hy' => exact List.mem_cons_of_mem _ (hW y hy')

theorem ExtF.mem_or_dead {sub : Subject} {V0 V1 : List VKey} (h : ExtF c T sub V0 V1) {s : VKey}
    (hs : s ∈ V1 ∨ DeadF c T sub V1 s) : s ∈ V0 ∨ DeadF c T sub V0 s :=
  hs.elim (h s) (fun h1 => .inr (FaE.repl h1 rfl (h.repl.cons s)))

theorem ExtF.trans {sub : Subject} {V0 V1 V2 : List VKey} (h1 : ExtF c T sub V0 V1)
    (h2 : ExtF c T sub V1 V2) : ExtF c T sub V0 V2 :=
  fun s hs => h1.mem_or_dead (h2 s hs)

theorem ExtF.cons {sub : Subject} {V : List VKey} {s : VKey} (hd : DeadF c T sub V s) :
    ExtF c T sub V (s :: V) :=
  fun s' hs' => by
    cases hs' with
    | head => exact .inr hd
    | tail _ h => exact .inl h

mutual
theorem FaE.toFaA : ∀ {V A : List VKey} {t : Tuple}, FaE c T V t → (∀ x, x ∈ V → x ∈ A ∨ x = nodeKey t) →
    FaA c T A t
  | V, A, t, .node hnT hnb hexp hrw, hV => by
    by_cases hin : nodeKey t ∈ A
    · exact .cut hin
    · have hV' : ∀ x, x ∈ V → x ∈ nodeKey t :: A := fun x hx =>
        (hV x hx).elim (List.mem_cons_of_mem _) (fun e => e ▸ List.mem_cons_self ..)
      refine .node hin hnT hnb (fun n o r hm => ?_) (fun R rw h1 h2 => (hrw R rw h1 h2).toHFaA hV')
      by_cases hs : (n, o, r) ∈ nodeKey t :: A
      · exact .cut hs
      · exact (hexp n o r hm (fun hv => hs (hV' _ hv))).toFaA fun x hx => by
          cases hx with
          | head => exact Or.inr rfl
          | tail _ hx' => exact Or.inl (hV' x hx')
theorem HFaE.toHFaA : ∀ {V A : List VKey} {ch : Child} {t : Tuple}, HFaE c T V ch t → (∀ x, x ∈ V → x ∈ A) →
    HFaA c T A ch t
  | _, _, _, _, .computed h, hV => .computed (h.toFaA fun x hx => Or.inl (hV x hx))
  | _, _, _, _, .ttu h, hV => .ttu fun n o r hm => (h n o r hm).toFaA fun x hx => Or.inl (hV x hx)
  | _, _, _, _, .or h, hV => .or fun ch hm => (h ch hm).toHFaA hV
  | _, _, _, _, .andNil, _ => .andNil
  | _, _, _, _, .and hm h, hV => .and hm (h.toHFaA hV)
  | _, _, _, _, .invert h, _ => .invert h
end

theorem FaE.toFa {t : Tuple} (h : FaE c T [] t) : Fa c T t :=
  h.toFaA (fun _ hx => nomatch hx)

theorem faE_empty_rel (h : conforms c T = true) (V : List VKey) (n : String) (o : Nat) (sub : Subject) :
    FaE c T V ⟨n, o, "", sub⟩ := by
  refine .node ?_ ?_ ?_ ?_
  · intro ht
    obtain ⟨_, _, _, hne, _⟩ := conformsTuple_lookup (conformsTuple_of_mem h ht)
    exact hne rfl
  · rw [astRelationFor_empty]
    nofun
  · intro n' o' r' ht _
    obtain ⟨_, _, _, hne, _⟩ := conformsTuple_lookup (conformsTuple_of_mem h ht)
    exact absurd rfl hne
  · intro R rw hR _
    rw [astRelationFor_empty] at hR
    cases hR

end Keto
