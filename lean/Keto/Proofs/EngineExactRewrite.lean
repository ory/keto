/-
  Exactness of the engine model for ALL configurations, part 4: what `build` establishes for each kind
  of call (`BuildX`), the union shortcut (`scRun_x`), the functional induction over `build`
  (`build_exact`; for `!` the operand is evaluated in a fresh scope: its closed refutation proves `!`,
  its derivation refutes `!`), and `check_exact`, what it says of `check`.
-/
import Keto.Proofs.EngineExactAllowed

namespace Keto

/-- `skipDirect` is only passed by callers that have looked the tuple up themselves. -/
def Call.Pre (E : Env) : Call → Prop
  | .isAllowed t _ skip => skip = true → t ∉ E.T
  | _ => True

/-- What `build` establishes for a call: `checkIsAllowed` and a computed-subject-set child are
    evaluated while the check is constructed (`EagerX`), every other call does its work when the
    thunk is run (`LazyX`). -/
def BuildX (E : Env) : Call → Ctx → World → Thunk × World → Prop
  | .isAllowed t _ _, ctx, w, bw => EagerX E t.sub (Tr E.cfg E.T t) (FM E t) ctx w bw
  | .child t (.computed rel) _ _, ctx, w, bw =>
    EagerX E t.sub (HTr E.cfg E.T (.computed rel) t) (FH E t (.computed rel)) ctx w bw
  | .child t ch _ _, _, w, bw => LazyX E t.sub (HTr E.cfg E.T ch t) (FH E t ch) w bw
  | .rewrite t rw _, _, w, bw =>
    LazyX E t.sub (HTr E.cfg E.T (.rewrite rw.op rw.children) t) (FH E t (.rewrite rw.op rw.children)) w bw
  | .invert t ch _, _, w, bw => LazyX E t.sub (HTr E.cfg E.T (.invert ch) t) (FH E t (.invert ch)) w bw

theorem BuildX.lazy_child {E : Env} {t : Tuple} {ch : Child} {d : Int} {inv : Bool} {c : Ctx} {w : World}
    {bw : Thunk × World} (h : BuildX E (.child t ch d inv) c w bw) (hic : ch.isComputed = false) :
    LazyX E t.sub (HTr E.cfg E.T ch t) (FH E t ch) w bw := by
  cases ch with
  | computed _ => cases hic
  | _ => exact h

/-- An operand that is built in a fresh scope and run in a fresh scope (operand of `and`, of `!`). -/
theorem BuildX.fresh0 {E : Env} {t : Tuple} {ch : Child} {d : Int} {inv : Bool} {w : World} {bw : Thunk × World}
    (h : BuildX E (.child t ch d inv) (fresh w).1 (fresh w).2 bw) :
    Frame none w bw.2 ∧ ThunkX0 (HTr E.cfg E.T ch t) (FH E t ch []) bw.2.limitHits (withFresh bw.1) := by
  cases ch with
  | computed r =>
    obtain ⟨res, he, hr⟩ := h
    rw [he]
    exact ⟨hr.of_fresh.frame, ThunkX0.of_const hr⟩
  | _ => exact ⟨(fresh_frame w).trans h.frame, h.thunk.withFresh⟩

/-- A candidate that is left out of the query (strict mode, it has a rewrite) holds no tuple: a stored
    tuple on a candidate relation is found. -/
theorem scHit_of_mem {E : Env} (hs : E.strict = true → conforms E.cfg E.T = true) {t : Tuple}
    {comps : List String} {r : String} (hr : r ∈ comps) (hm : (⟨t.ns, t.obj, r, t.sub⟩ : Tuple) ∈ E.T) :
    scHit E t comps = true := by
  have hrin : r ∈ comps.filter (fun r => !(E.strict && hasRewriteRel E.cfg t.ns r)) := by
    refine List.mem_filter.2 ⟨hr, ?_⟩
    cases hst : E.strict with
    | false => rfl
    | true => simp [conforms_hasRewriteRel (hs hst) hm]
  simp only [scHit, Bool.and_eq_true, Bool.not_eq_true', List.isEmpty_eq_false_iff, List.any_eq_true]
  refine ⟨List.ne_nil_of_mem hrin, _, hm, ?_⟩
  simp only [beq_self_eq_true, List.contains_iff_mem]
  exact ⟨⟨⟨trivial, trivial⟩, trivial⟩, hrin⟩

theorem scRun_x (E : Env) (hs : E.strict = true → conforms E.cfg E.T = true) (t : Tuple)
    (comps : List String) (PT : Prop) {rec : String → Ctx → World → Res × World}
    (hPT : ∀ r, r ∈ comps → Tr E.cfg E.T { t with rel := r } → PT)
    (hrec : ∀ r, (⟨t.ns, t.obj, r, t.sub⟩ : Tuple) ∉ E.T → ∀ c w, Valid c w →
      RunX E t.sub (Tr E.cfg E.T { t with rel := r }) (FM E { t with rel := r }) c w (rec r c w)) :
    ThunkX E t.sub PT (fun V => ∀ r, r ∈ comps → FM E { t with rel := r } V) 0 (scRun E t comps rec) := by
  intro c w hv _
  refine RunX.of_call ?_
  fun_cases scRun E t comps rec c w
  · exact RunX.of_err (Frame.refl _ _) .storage rfl
  · next h =>
    obtain ⟨r, hr, hm⟩ := scHit_mem h
    exact RunX.of_isM (Frame.refl _ _) rfl (hPT r hr (.direct hm))
  · next h =>
    rw [relLoop_eq]
    exact gRun_x (fun r => FM.back E { t with rel := r }) (hv.frame (Frame.ofCall none E w))
      (fun r hr w' hv' => (hrec r (fun hm => h (scHit_of_mem hs hr hm)) c w' hv').imp (hPT r hr) (fun _ h => h))

theorem BuildX.of_const {E : Env} (call : Call) (c : Ctx) {w w' : World} (r : Res) (hf : Frame none w w')
    (h : w'.limitHits ≠ 0 ∨ ∃ k, r = Res.error k) : BuildX E call c w (constT r, w') := by
  have he : ∀ sub PT PF, EagerX E sub PT PF c w (constT r, w') := fun _ _ _ =>
    ⟨r, rfl, h.elim (fun hl => RunX.of_lim (out := (r, w')) hf.weaken hl)
      (fun ⟨k, hk⟩ => RunX.of_err hf.weaken k hk)⟩
  have hl : ∀ sub PT PF, LazyX E sub PT PF w (constT r, w') := fun _ _ _ =>
    ⟨hf, h.elim (ThunkX.const_lim r) (fun ⟨k, hk⟩ => hk ▸ ThunkX.const_err k)⟩
  cases call with
  | isAllowed => exact he ..
  | child t ch =>
    cases ch with
    | computed => exact he ..
    | _ => exact hl ..
  | _ => exact hl ..

/-- Exactness invariant of the engine model: see `RunX`, `EagerX`, `LazyX`.  That `build` only grows the
    heap and the limit counter (the `frame` parts) is available through this theorem only, although it
    needs neither `hs` nor `Call.Pre`. -/
theorem build_exact (E : Env) (hs : E.strict = true → conforms E.cfg E.T = true) (fuel : Nat) (call : Call)
    (ctx : Ctx) (w : World) : call.Pre E → Valid ctx w → BuildX E call ctx w (build E fuel call ctx w) := by
  fun_induction build E fuel call ctx w with
  | case1 | case3 =>  -- out of fuel; schema error
    exact fun _ _ => .of_const _ _ _ (Frame.refl _ _) (.inr ⟨_, rfl⟩)
  | case2 | case5 | case7 | case9 | case13 =>  -- depth exhausted
    exact fun _ _ => .of_const _ _ _ (Frame.ofLim _ _) (.inl (by simp))
  | case4 fuel t d skip ctx w hd strict hlk rel? rw? gw1 gw2 canSS gw3 ihrw ihexp =>  -- checkIsAllowed
    intro hpre hv
    refine ⟨gResult gw3.1, rfl, ?_⟩
    show RunX E t.sub _ _ ctx w (gResult gw3.1, gw3.2)
    have hcan : canSS = false → E.strict = true ∧
        ∃ R, astRelationFor E.cfg t.ns t.rel = .rel R ∧ containsSubjectSetExpand R = false := by
      cases hl : astRelationFor E.cfg t.ns t.rel <;> simp [canSS, rel?, strict, hl]
    -- the group of `checkIsAllowed`, member by member in `Add` order: rewrite, direct lookup, expansion
    have h1 : GroupX E t.sub (Tr E.cfg E.T t) (fun V => ∀ rw, rw? = some rw → FH E t (.rewrite rw.op rw.children) V)
        ctx w gw1 := by
      cases hrw : rw? with
      | some rw =>
        simp only [gw1, hrw]
        obtain ⟨R, hR, hRrw⟩ := lookup_rewrite_eq_some.1 hrw
        have hrun := (ihrw rw trivial hv).runB hv
        refine ((GroupX.nil.add (hrun.imp (.rewrite hR hRrw) (fun _ h => h)) (FH.back E t _)).imp
          (fun V hp rw' hrw' => ?_))
        cases hrw'
        exact hp.2
      | none =>
        simp only [gw1, hrw]
        exact GroupX.nil.imp (fun _ _ rw' hrw' => by cases hrw')
    have h2 : GroupX E t.sub (Tr E.cfg E.T t)
        (fun V => (∀ rw, rw? = some rw → FH E t (.rewrite rw.op rw.children) V) ∧ t ∉ E.T) ctx w gw2 := by
      simp only [gw2]
      split
      · exact directStep_x t (d - 1) h1 .direct
      · next hcond =>
        refine h1.imp (fun _ hp => ⟨hp, fun hm => ?_⟩)
        cases hsk : skip with
        | true => exact hpre hsk hm
        | false =>
          cases hq : rw? with
          | none => simp [hsk, hq] at hcond
          | some rw' =>
            obtain ⟨R, hR, hRrw⟩ := lookup_rewrite_eq_some.1 hq
            have hst : E.strict = true := by simpa [hsk, hq, strict] using hcond
            rw [conforms_no_rewrite (hs hst) hm hR] at hRrw
            cases hRrw
    have h3 : GroupX E t.sub (Tr E.cfg E.T t)
        (fun V => ((∀ rw, rw? = some rw → FH E t (.rewrite rw.op rw.children) V) ∧ t ∉ E.T) ∧ FExpand E t V)
        ctx w gw3 := by
      simp only [gw3]
      cases hcs : canSS with
      | false =>
        obtain ⟨hst, R, hR, hss⟩ := hcan hcs
        refine h2.imp (fun V hp => ⟨hp, fun n' o r hT => ?_⟩)
        have hr : r = "" := conforms_set_rel (hs hst) hT hR hss
        subst hr
        exact Or.inr (faE_empty_rel (hs hst) _ n' o t.sub)
      | true =>
        simp only [if_true]
        split
        · exact h2.lim
        · split
          · next x hx => exact h2.decided hx (Frame.refl _ _)
          · next hx =>
            rw [← hx]
            exact h2.add (expandRun_x E _ t ctx gw2.2 (hv.frame h2.frame)
                (fun n' o r _ hnT c w' hv' => (ihexp _ c w' (fun _ => hnT) hv').runB))
              (fun _ _ hext h n' o r hT => hext.mem_or_dead (h n' o r hT))
    exact h3.result.imp id (fun V hp => .node hp.1.2 (fun h => hlk h)
      (fun n' o r hT hn => (hp.2 n' o r hT).resolve_left hn)
      (fun R rw hR hRrw => hp.1.1 rw (lookup_rewrite_eq_some.2 ⟨R, hR, hRrw⟩)))
  | case6 fuel t rw d ctx w hd isOr comps rest sc bw ths ihcomp ihch =>  -- rewrite
    intro _ hv
    obtain ⟨op, cs⟩ := rw
    cases op with
    | or =>
      show LazyX E t.sub (HTr E.cfg E.T (.rewrite .or cs) t) (FH E t (.rewrite .or cs)) w _
      have hcomps : ∀ r, r ∈ comps ↔ Child.computed r ∈ cs := fun r => mem_computedRels
      have hrest : ∀ ch, ch ∈ rest ↔ ch ∈ cs ∧ ch.isComputed = false := fun ch => by simp [rest, isOr]
      show LazyX E t.sub _ _ w (orRun (sc ++ bw.1), bw.2)
      have hb := buildChildren_ok (fun ch c w' => build E fuel (Call.child t ch d false) c w') false
        (fun ch lh th => ThunkX E t.sub (HTr E.cfg E.T (.rewrite .or cs) t) (FH E t ch) lh th)
        (fun _ _ _ _ h hl => h.mono hl) ctx rest w hv
        (fun ch hm w' hv' =>
          have h := (ihch ch ctx w' trivial hv').lazy_child ((hrest ch).1 hm).2
          ⟨h.frame, h.thunk.imp (.or ((hrest ch).1 hm).1) (fun _ h => h)⟩)
      refine ⟨hb.1, ?_⟩
      -- the operands that are not computed subject sets, then the shortcut in front of them if there is one
      have hor := orRun_x (FH.back E t) hb.2
      have hall : ThunkX E t.sub (HTr E.cfg E.T (.rewrite .or cs) t)
          (fun V => (∀ r, r ∈ comps → FM E { t with rel := r } V) ∧ ∀ ch, ch ∈ rest → FH E t ch V)
          bw.2.limitHits (orRun (sc ++ bw.1)) := by
        simp only [sc]
        cases hce : comps.isEmpty with
        | true =>
          rw [List.isEmpty_iff.1 hce]
          exact hor.imp id (fun _ h => ⟨fun _ hr => (nomatch hr), h⟩)
        | false =>
          refine ((scRun_x E hs t comps _ (fun r hr h => ?_)
            (fun r hnT c w' hv' => (ihcomp r c w' (fun _ => hnT) hv').runB)).mono (Nat.zero_le _)).orCons hor
            (fun _ _ hext h ch hm => FH.back E t ch _ _ hext (h ch hm))
          exact .or ((hcomps r).1 hr) (.computed h)
      refine hall.imp id (fun V h => .or (fun ch hm => ?_))
      cases hic : ch.isComputed with
      | false => exact h.2 ch ((hrest ch).2 ⟨hm, hic⟩)
      | true =>
        cases ch with
        | computed r => exact .computed (h.1 r ((hcomps r).2 hm))
        | _ => cases hic
    | and =>
      show LazyX E t.sub (HTr E.cfg E.T (.rewrite .and cs) t) (FH E t (.rewrite .and cs)) w
        (andRun (bw.1.map withFresh), bw.2)
      have hb := buildChildren_ok (fun ch c w' => build E fuel (Call.child t ch d false) c w') true
        (fun ch lh th => ThunkX0 (HTr E.cfg E.T ch t) (FH E t ch []) lh (withFresh th)) (fun _ _ _ _ h hl => h.mono hl)
        ctx cs w hv (fun ch _ w' _ => (ihch ch (fresh w').1 (fresh w').2 trivial (fresh_valid w')).fresh0)
      have hall := hb.2.imp (R' := fun ch th => ThunkX0 (HTr E.cfg E.T ch t) (FH E t ch []) bw.2.limitHits th)
        (f := withFresh) (fun _ _ h => h)
      refine ⟨hb.1, fun c w' hv' hl => ?_⟩
      dsimp only [andRun]
      split
      · next hemp =>
        cases hall.nil_iff.1 (List.isEmpty_iff.1 hemp)
        exact RunX.of_skip .andNil
      · next hemp =>
        refine ((andLoop_x hall c w' hl).toRunX hv').imp
          (.and (fun hnil => hemp (List.isEmpty_iff.2 (hall.nil_iff.2 hnil))))
          (fun _ ⟨_, hm, hn⟩ => .and hm (hn.mono_V (fun _ hx => nomatch hx)))
  | case8 fuel t d inv ctx w rel crel hd ih =>  -- tuple-to-subject-set
    intro _ _
    refine ⟨Frame.refl _ _, fun c w' hv' hl => ?_⟩
    let rec' : VKey → Ctx → World → Res × World :=
      fun s c w'' => runB (build E fuel (.isAllowed ⟨s.1, s.2.1, crel, t.sub⟩ (d - 1) false) c w'') c
    let pages := pagesOf E.pageSize (rowsOf E.T t.ns t.obj rel).length (rowsOf E.T t.ns t.obj rel)
    show RunX E t.sub _ _ c w' (gResult (ttuPages E rec' pages none c w').1, (ttuPages E rec' pages none c w').2)
    rw [ttuPages_eq]
    have hor := orRun_x (PT := HTr E.cfg E.T (.ttu rel crel) t) (PagePF.back fun s => FM.back E ⟨s.1, s.2.1, crel, t.sub⟩)
      (All2.of_map (pageRun E rec') pages fun p hp =>
        pageRun_x (fun s => FM.back E ⟨s.1, s.2.1, crel, t.sub⟩)
          fun x hx n' o r hsx c w'' hv'' =>
            (EagerX.runB (ih (n', o, r) c w'' (fun h => nomatch h) hv'')).imp
              (.ttu (mem_page_rowsOf.1 ⟨p, hp, x, hx, hsx⟩)) (fun _ h => h))
    refine (hor c w' hv' (Nat.zero_le _)).imp id (fun V hall => .ttu fun n' o r hT => ?_)
    obtain ⟨p, hp, x, hx, hsx⟩ := mem_page_rowsOf.2 hT
    exact hall p hp x hx n' o r hsx
  | case10 _ _ _ _ _ _ _ _ ih =>  -- computed subject set
    exact fun _ hv => EagerX.imp (ih (fun h => nomatch h) hv) .computed (fun _ => .computed)
  | case11 _ _ _ _ _ _ _ _ ih => exact fun _ hv => ih trivial hv  -- nested rewrite
  | case12 _ _ _ _ _ _ _ ih => exact fun _ hv => ih trivial hv  -- child `!c`
  | case14 fuel t ch d _ w hd cw bw ih =>  -- invert
    intro _ _
    have h0 := (ih trivial (fresh_valid w)).fresh0
    refine ⟨h0.1, fun c w' hv' hl => ?_⟩
    show RunX E t.sub _ _ c w' (invertRes (withFresh bw.1 c w').1, (withFresh bw.1 c w').2)
    exact ((h0.2 c w' hl).invert.toRunX hv').imp (fun h => .invert (h.toHFaA (fun _ hx => nomatch hx)))
      (fun _ h => .invert h)

/-- In a run without limit event an `isMember` answer is backed by a derivation, and an answer that is
    neither an error nor `isMember` is `notMember` and backed by a closed refutation shaped like the
    engine's search (`FaE`). -/
theorem check_exact (E : Env) (hs : E.strict = true → conforms E.cfg E.T = true) (g : Int) (fuel : Nat)
    (q : Tuple) (r : Int) (hlim : (check E g fuel q r).2.limitHits = 0) :
    ((check E g fuel q r).1.memb = .isMember → Tr E.cfg E.T q) ∧
    ((check E g fuel q r).1.decisive = false → (check E g fuel q r).1 = Res.nm ∧ FaE E.cfg E.T [] q) :=
  (build_exact E hs fuel (.isAllowed q (effDepth r g) false) {} {} (fun h => nomatch h)
    (fun _ h => nomatch h)).runB.exact hlim

/-- Such an answer refutes membership in the positive semantics too, `!` or not: `Mem` implies `Tr`. -/
theorem check_refutes (E : Env) (hs : E.strict = true → conforms E.cfg E.T = true) (g : Int) (fuel : Nat)
    (q : Tuple) (r : Int) (hnd : (check E g fuel q r).1.decisive = false)
    (hlim : (check E g fuel q r).2.limitHits = 0) : ¬ Mem E.cfg E.T q :=
  fun hmem => (tr_of_mem hmem).not_fa ((check_exact E hs g fuel q r hlim).2 hnd).2.toFa

end Keto
