/-
  The expand engine under storage faults (`Keto.expandF`, Keto/Model/ExpandFault.lean) against the fault-free
  model `Keto.expand`.

  `Sim fails st res ok err resF`: `res` is what the fault-free run answers from the state `st`, `resF` what the run
  under the oracle `fails` answers from the same state. The calls only grow, and either
    * no fault among the calls `st.calls … res.2.calls - 1` the fault-free run issues, and
      `resF` is `res` (same answer, same state); or
    * a fault among them, and `resF` is the error.
  Which of the two is decided by running the code, so no case distinction on the oracle is needed.
-/
import Keto.Model.ExpandFault

namespace Keto

variable {fails : Nat → Bool}

def NoFault (fails : Nat → Bool) (a b : Nat) : Prop := ∀ i, a ≤ i → i < b → fails i = false

def HasFault (fails : Nat → Bool) (a b : Nat) : Prop := ∃ i, a ≤ i ∧ i < b ∧ fails i = true

theorem NoFault.not_hasFault {a b : Nat} (h : NoFault fails a b) : ¬ HasFault fails a b := by
  rintro ⟨i, h1, h2, hf⟩
  rw [h i h1 h2] at hf
  cases hf

theorem NoFault.nil (fails : Nat → Bool) (a : Nat) : NoFault fails a a := fun _ h1 h2 => by omega

theorem NoFault.append {a b c : Nat} (h : NoFault fails a b) (h' : NoFault fails b c) :
    NoFault fails a c := fun i h1 h2 =>
  if hb : i < b then h i h1 hb else h' i (Nat.le_of_not_lt hb) h2

theorem HasFault.mono {a b a' b' : Nat} (h : HasFault fails a b) (ha : a' ≤ a) (hb : b ≤ b') :
    HasFault fails a' b' := by
  obtain ⟨i, h1, h2, hf⟩ := h
  exact ⟨i, Nat.le_trans ha h1, Nat.lt_of_lt_of_le h2 hb, hf⟩

def Sim {α β : Type} (fails : Nat → Bool) (st : XState) (res : α × XState) (ok : α → β) (err : β)
    (resF : β × XState) : Prop :=
  st.calls ≤ res.2.calls ∧
  ((NoFault fails st.calls res.2.calls ∧ resF = (ok res.1, res.2)) ∨
   (HasFault fails st.calls res.2.calls ∧ resF.1 = err))

theorem Sim.pure {α β : Type} {ok : α → β} {err : β} {st st' : XState} {a : α} (h : st'.calls = st.calls) :
    Sim fails st (a, st') ok err (ok a, st') :=
  ⟨Nat.le_of_eq h.symm, .inl ⟨h ▸ NoFault.nil fails _, rfl⟩⟩

theorem call_cases (fails : Nat → Bool) (st : XState) :
    (fails st.calls = false ∧ NoFault fails st.calls st.call.calls) ∨
    (fails st.calls = true ∧ HasFault fails st.calls st.call.calls) := by
  have e : st.call.calls = st.calls + 1 := rfl
  cases h : fails st.calls with
  | false => exact .inl ⟨rfl, fun i h1 h2 => by rw [show i = st.calls by omega]; exact h⟩
  | true => exact .inr ⟨rfl, st.calls, Nat.le_refl _, by omega, h⟩

theorem Sim.call {α β : Type} {ok : α → β} {err : β} {st st' : XState} {a : α}
    (h : st'.calls = st.call.calls) :
    Sim fails st (a, st') ok err (if fails st.calls = true then (err, st.call) else (ok a, st')) := by
  refine ⟨h ▸ Nat.le_succ _, ?_⟩
  rcases call_cases fails st with ⟨e0, n0⟩ | ⟨e0, f0⟩
  · exact .inl ⟨h ▸ n0, by simp only [e0, Bool.false_eq_true, if_false]⟩
  · exact .inr ⟨h ▸ f0, by simp only [e0, if_true]⟩

theorem childLoopF_sim {rec : Subject → XState → Option Tree × XState} {recF : Subject → XState → XRes × XState}
    (h : ∀ s st, Sim fails st (rec s st) .ok .err (recF s st)) :
    ∀ (ts : List Tuple) (st : XState), Sim fails st (childLoop rec ts st) some none (childLoopF recF ts st)
  | [], _ => .pure rfl
  | t :: ts, st => by
    obtain ⟨hm1, h1⟩ := h t.sub st
    obtain ⟨hm2, h2⟩ := childLoopF_sim h ts (rec t.sub st).2
    simp only [childLoop]
    refine ⟨Nat.le_trans hm1 hm2, ?_⟩
    rcases h1 with ⟨n1, e1⟩ | ⟨f1, e1⟩
    · rcases h2 with ⟨n2, e2⟩ | ⟨f2, e2⟩
      · exact .inl ⟨n1.append n2, by simp only [childLoopF, e1, e2]⟩
      · exact .inr ⟨f2.mono hm1 (Nat.le_refl _), by simp only [childLoopF, e1, e2]⟩
    · exact .inr ⟨f1.mono (Nat.le_refl _) hm2, by simp only [childLoopF, e1]⟩

theorem pageLoopF_sim {rec : Subject → XState → Option Tree × XState} {recF : Subject → XState → XRes × XState}
    (h : ∀ s st, Sim fails st (rec s st) .ok .err (recF s st)) :
    ∀ (ps : List (List Tuple)) (st : XState),
      Sim fails st (pageLoop rec ps st) some none (pageLoopF fails recF ps st)
  | [], _ => .pure rfl
  | p :: ps, st => by
    have hm0 : st.calls ≤ st.call.calls := Nat.le_succ _
    obtain ⟨hm1, h1⟩ := childLoopF_sim h p st.call
    obtain ⟨hm2, h2⟩ := pageLoopF_sim h ps (childLoop rec p st.call).2
    simp only [pageLoop]
    refine ⟨Nat.le_trans hm0 (Nat.le_trans hm1 hm2), ?_⟩
    rcases call_cases fails st with ⟨e0, n0⟩ | ⟨e0, f0⟩
    · rcases h1 with ⟨n1, e1⟩ | ⟨f1, e1⟩
      · rcases h2 with ⟨n2, e2⟩ | ⟨f2, e2⟩
        · exact .inl ⟨(n0.append n1).append n2, by simp only [pageLoopF, e0, e1, e2, Bool.false_eq_true, if_false]⟩
        · exact .inr ⟨f2.mono (Nat.le_trans hm0 hm1) (Nat.le_refl _),
            by simp only [pageLoopF, e0, e1, e2, Bool.false_eq_true, if_false]⟩
      · exact .inr ⟨f1.mono hm0 hm2, by simp only [pageLoopF, e0, e1, Bool.false_eq_true, if_false]⟩
    · exact .inr ⟨f0.mono (Nat.le_refl _) (Nat.le_trans hm1 hm2), by simp only [pageLoopF, e0, if_true]⟩

theorem expandF_sim (E : XEnv) (fails : Nat → Bool) (fuel : Nat) (rd : Int) (sub : Subject) (st : XState) :
    Sim fails st (expand E fuel rd sub st) .ok .err (expandF E fails fuel rd sub st) := by
  fun_induction expand E fuel rd sub st with
  | case1 => exact .pure rfl
  | case2 => exact .pure rfl
  | case3 _ _ _ _ _ _ hv =>
    simp only [expandF, hv, if_true]
    exact .pure rfl
  | case4 _ _ _ _ _ _ hv st1 _ he =>
    simp only [expandF, hv, Bool.false_eq_true, if_false]
    -- `he` speaks of the local definition `rows`: `rw` sees through it, `simp only [he]` does not
    rw [if_pos he]
    exact Sim.call (st := st1) rfl
  | case5 _ _ _ _ _ _ _ hv st1 _ he hd =>
    simp only [expandF, hv, Bool.false_eq_true, if_false]
    rw [if_neg he, if_pos hd]
    exact Sim.call (st := st1) rfl
  | case6 fuel _ _ d _ _ _ hv st1 rows he hd _ ih =>
    simp only [expandF, hv, Bool.false_eq_true, if_false]
    rw [if_neg he, if_neg hd]
    obtain ⟨hm, h1⟩ := pageLoopF_sim ih (pagesOf E.pageSize rows.length rows) st1
    refine ⟨hm, ?_⟩
    rcases h1 with ⟨n1, e1⟩ | ⟨f1, e1⟩
    · exact .inl ⟨n1, by rw [e1]⟩
    · exact .inr ⟨f1, by rw [e1]⟩
theorem expandF_nofault (E : XEnv) (fails : Nat → Bool) (fuel : Nat) (rd : Int) (s : Subject) (st : XState)
    (h : ∀ i, st.calls ≤ i → i < (expand E fuel rd s st).2.calls → fails i = false) :
    expandF E fails fuel rd s st = (.ok (expand E fuel rd s st).1, (expand E fuel rd s st).2) :=
  (expandF_sim E fails fuel rd s st).2.elim (·.2) fun hf => absurd hf.1 (NoFault.not_hasFault h)

theorem expandF_err_iff (E : XEnv) (fails : Nat → Bool) (fuel : Nat) (rd : Int) (s : Subject) (st : XState) :
    (expandF E fails fuel rd s st).1 = .err ↔
      ∃ i, st.calls ≤ i ∧ i < (expand E fuel rd s st).2.calls ∧ fails i = true := by
  rcases (expandF_sim E fails fuel rd s st).2 with ⟨hn, e⟩ | ⟨hf, e⟩
  · rw [e]; exact ⟨nofun, fun hf => absurd hf hn.not_hasFault⟩
  · exact ⟨fun _ => hf, fun _ => e⟩

theorem expandF_fault (E : XEnv) (fails : Nat → Bool) (fuel : Nat) (rd : Int) (s : Subject) (st : XState)
    (h : ∃ i, st.calls ≤ i ∧ i < (expand E fuel rd s st).2.calls ∧ fails i = true) :
    (expandF E fails fuel rd s st).1 = .err :=
  (expandF_err_iff E fails fuel rd s st).mpr h

end Keto
