/-
  Invariants of the lexer model (Keto/Model/Lexer.lean): positions stay inside the input, no panic site fires,
  fuel suffices, steps and item count are linear.

  The measure `mu` (three units per byte still ahead plus a weight per state function) decreases with every
  state-function call; that bounds the calls, hence fuel and steps.
-/
import Keto.Model.Lexer

namespace Keto.Opl

theorem leadInfo_cases (c : Nat) :
    (leadInfo c).1 = 0 ∨ (leadInfo c).1 = 2 ∨ (leadInfo c).1 = 3 ∨ (leadInfo c).1 = 4 := by
  fun_cases leadInfo c <;> simp

theorem decodeBytes_width (avail c0 c1 c2 c3 : Nat) (h : 1 ≤ avail) :
    1 ≤ (decodeBytes avail c0 c1 c2 c3).2 ∧ (decodeBytes avail c0 c1 c2 c3).2 ≤ avail := by
  have hl := leadInfo_cases c0
  fun_cases decodeBytes avail c0 c1 c2 c3
  all_goals (simp +zetaDelta only [beq_iff_eq, Nat.not_lt, Nat.not_le] at *; omega)

theorem decodeRune_width (s : Array UInt8) (pos : Nat) (h : pos < s.size) :
    1 ≤ (decodeRune s pos).2 ∧ pos + (decodeRune s pos).2 ≤ s.size := by
  fun_cases decodeRune s pos with
  | case1 => omega
  | case2 =>
    have := decodeBytes_width (s.size - pos) (byteAt s pos) (byteAt s (pos + 1)) (byteAt s (pos + 2))
      (byteAt s (pos + 3)) (by omega)
    omega

/-- `max`: the empty prefix matches at any `i`. -/
theorem hasPrefixAt_len (s : Array UInt8) (i : Nat) (bs : List UInt8) (h : hasPrefixAt s i bs = true) :
    i + bs.length ≤ max i s.size := by
  fun_induction hasPrefixAt s i bs with
  | case1 => exact Nat.le_max_left ..
  | case2 i b bs ih =>
    rw [Bool.and_eq_true, beq_iff_eq, Array.getElem?_eq_some_iff] at h
    have := ih h.2
    have := h.1.1
    rw [List.length_cons]
    omega

/-- `l'` is `l` after scanning forward inside the input, in at most `k` steps beyond one per byte. -/
structure Fwd (s : Array UInt8) (k : Nat) (l l' : L) : Prop where
  start : l'.start = l.start
  items : l'.items = l.items
  panic : l'.panic = l.panic
  le : l.pos ≤ l'.pos
  inb : l'.pos ≤ s.size
  steps : l'.steps + l.pos ≤ l.steps + l'.pos + k

theorem Fwd.scan {s : Array UInt8} {k : Nat} {l : L} {p w st : Nat} (h1 : l.pos ≤ p) (h2 : p ≤ s.size)
    (h3 : st + l.pos ≤ l.steps + p + k) : Fwd s k l { l with pos := p, width := w, steps := st } :=
  ⟨rfl, rfl, rfl, h1, h2, h3⟩

theorem Fwd.refl {s : Array UInt8} {k : Nat} {l : L} (h : l.pos ≤ s.size) : Fwd s k l l :=
  .scan (Nat.le_refl _) h (Nat.le_add_right ..)

theorem Fwd.trans {s : Array UInt8} {a b : Nat} {l1 l2 l3 : L} (h1 : Fwd s a l1 l2) (h2 : Fwd s b l2 l3) :
    Fwd s (a + b) l1 l3 :=
  ⟨h2.start.trans h1.start, h2.items.trans h1.items, h2.panic.trans h1.panic, Nat.le_trans h1.le h2.le, h2.inb,
    by have := h1.steps; have := h2.steps; omega⟩

theorem Fwd.mono {s : Array UInt8} {a b : Nat} {l1 l2 : L} (h : Fwd s a l1 l2) (hab : a ≤ b) : Fwd s b l1 l2 :=
  ⟨h.start, h.items, h.panic, h.le, h.inb, by have := h.steps; omega⟩

theorem next_none_iff (s : Array UInt8) (l : L) : (next s l).1 = none ↔ s.size ≤ l.pos := by
  fun_cases next s l <;> simp [*]

theorem next_fwd (s : Array UInt8) (l : L) (h : l.pos ≤ s.size) : Fwd s 1 l (next s l).2 := by
  fun_cases next s l with
  | case1 => exact .scan (Nat.le_refl _) h (by omega)
  | case2 hlt rw =>
    have : 1 ≤ rw.2 ∧ l.pos + rw.2 ≤ s.size := decodeRune_width s l.pos (by omega)
    exact .scan (by omega) (by omega) (by omega)

theorem next_adv (s : Array UInt8) (l : L) (h : (next s l).1 ≠ none) :
    Fwd s 0 l (next s l).2 ∧ l.pos < (next s l).2.pos := by
  have hlt := mt (next_none_iff s l).2 h
  fun_cases next s l with
  | case1 => contradiction
  | case2 _ rw =>
    have : 1 ≤ rw.2 ∧ l.pos + rw.2 ≤ s.size := decodeRune_width s l.pos (by omega)
    exact ⟨.scan (by omega) (by omega) (by omega), by show l.pos < l.pos + rw.2; omega⟩

theorem backup_next (s : Array UInt8) (l : L) :
    backup (next s l).2 = { l with width := (next s l).2.width, steps := l.steps + 1 } := by
  fun_cases next s l <;> simp [backup]

theorem backup_next_fwd (s : Array UInt8) (l : L) (h : l.pos ≤ s.size) : Fwd s 1 l (backup (next s l).2) := by
  rw [backup_next]
  exact .scan (Nat.le_refl _) h (by omega)

theorem peek_spec (s : Array UInt8) (l : L) (h : l.pos ≤ s.size) :
    Fwd s 1 l (peek s l).2 ∧ (peek s l).2.pos = l.pos ∧ ((peek s l).1 = none ↔ s.size ≤ l.pos) :=
  ⟨backup_next_fwd s l h, (congrArg L.pos (backup_next s l) :), next_none_iff s l⟩

theorem inClass_ne_none {valid : Nat → Bool} {o : Option Nat} (h : inClass valid o = true) : o ≠ none := by
  rintro rfl
  cases h

theorem accept_spec (s : Array UInt8) (valid : Nat → Bool) (l : L) (h : l.pos ≤ s.size) :
    Fwd s 1 l (accept s valid l).2 ∧ ((accept s valid l).1 = true → l.pos < (accept s valid l).2.pos) := by
  fun_cases accept s valid l with
  | case1 r hc =>
    have hx := next_adv s l (inClass_ne_none hc)
    exact ⟨hx.1.mono (Nat.zero_le _), fun _ => hx.2⟩
  | case2 => exact ⟨backup_next_fwd s l h, nofun⟩

theorem acceptRun_spec (s : Array UInt8) (valid : Nat → Bool) (n : Nat) (l : L) (h : l.pos ≤ s.size)
    (hn : s.size - l.pos < n) : Fwd s 1 l (acceptRun s valid n l) := by
  fun_induction acceptRun s valid n l with
  | case1 => omega
  | case2 n l r hc ih =>
    have hx : Fwd s 0 l r.2 ∧ l.pos < r.2.pos := next_adv s l (inClass_ne_none hc)
    have hin := hx.1.inb
    exact hx.1.trans (ih hin (by omega))
  | case3 n l => exact backup_next_fwd s l h

theorem scanIdentifier_spec (s : Array UInt8) (l : L) (h : l.pos ≤ s.size) :
    Fwd s 2 l (scanIdentifier s l).2 ∧ ((scanIdentifier s l).1 = true → l.pos < (scanIdentifier s l).2.pos) := by
  have ha := accept_spec s isLetter l h
  fun_cases scanIdentifier s l with
  | case1 a hacc =>
    have hr := acceptRun_spec s isLetterOrDigit (s.size + 1) a.2 ha.1.inb (by omega)
    exact ⟨ha.1.trans hr, fun _ => Nat.lt_of_lt_of_le (ha.2 hacc) hr.le⟩
  | case2 => exact ⟨ha.1.mono (by omega), nofun⟩

def itemOk (s : Array UInt8) (i : Item) : Prop := i.start ≤ i.stop ∧ i.stop ≤ s.size

/-- The invariant between state-function calls. `cnt`: every item emitted so far used up at least one byte of its
    own, its text or (an empty string literal) its quotes, all of them before `start`. -/
structure Good (s : Array UInt8) (l : L) : Prop where
  sp : l.start ≤ l.pos
  ps : l.pos ≤ s.size
  np : l.panic = false
  items : ∀ i ∈ l.items, itemOk s i
  cnt : l.items.length ≤ l.start

theorem Fwd.good {s : Array UInt8} {k : Nat} {l l' : L} (hf : Fwd s k l l') (hg : Good s l) : Good s l' :=
  ⟨hf.start ▸ Nat.le_trans hg.sp hf.le, hf.inb, hf.panic ▸ hg.np, hf.items ▸ hg.items,
    hf.items ▸ hf.start ▸ hg.cnt⟩

theorem Good.ignore {s : Array UInt8} {l : L} (hg : Good s l) : Good s (ignore l) :=
  ⟨Nat.le_refl _, hg.ps, hg.np, hg.items, Nat.le_trans hg.cnt hg.sp⟩

theorem Good.items_cons {s : Array UInt8} {l : L} (hg : Good s l) (t : ItemType) (v : List UInt8) (e : LexErr) :
    ∀ i ∈ (⟨t, v, l.start, l.pos, e⟩ :: l.items : List Item), itemOk s i :=
  List.forall_mem_cons.2 ⟨⟨hg.sp, hg.ps⟩, hg.items⟩

/-- `lexCode` enters a string literal, and a line comment returns to `lexCode`, without consuming input: the weights
    have to fall along these two hand-overs. -/
def wt : StateFn → Nat
  | .code => 1 | .lineComment => 2 | .blockComment => 2 | .stringLiteral => 0

def mu (s : Array UInt8) (fn : StateFn) (l : L) : Nat := 3 * (s.size - l.pos) + wt fn

/-- What a state function needs of the state it is entered in, beyond `Good`: a line comment can end at once, and
    its item is non-empty only because `pos` is already past the `//`. -/
def Entry (fn : StateFn) (l : L) : Prop :=
  match fn with
  | .lineComment => l.start < l.pos
  | _ => True

/-- What a state-function call started at `l` achieved: the measure of the next state is below
    `3 * (|s| - l.pos) + c`, and `k` bounds the steps beyond one per consumed byte. -/
structure Res (s : Array UInt8) (l : L) (c k : Nat) (res : Option StateFn × L) : Prop where
  np : res.2.panic = false
  items : ∀ i ∈ res.2.items, itemOk s i
  steps : res.2.steps + l.pos ≤ l.steps + res.2.pos + k
  inb : res.2.pos ≤ s.size
  cont : ∀ fn', res.1 = some fn' → Good s res.2 ∧ Entry fn' res.2 ∧ mu s fn' res.2 < 3 * (s.size - l.pos) + c
  stop : res.1 = none → res.2.items.length ≤ s.size + 1

theorem Res.mono {s : Array UInt8} {l : L} {c k c' k' : Nat} {res : Option StateFn × L} (h : Res s l c k res)
    (hc : c ≤ c') (hk : k ≤ k') : Res s l c' k' res :=
  ⟨h.np, h.items, by have := h.steps; omega, h.inb,
    fun fn' hfn => ⟨(h.cont fn' hfn).1, (h.cont fn' hfn).2.1, by have := (h.cont fn' hfn).2.2; omega⟩, h.stop⟩

/-- From `l` by scanning, `ignore`, scanning: how `lexCode` and a string literal get to the state `l3`. -/
theorem Res.rebase {s : Array UInt8} {l l2 l3 : L} {c k a b : Nat} {res : Option StateFn × L} (h : Res s l3 c k res)
    (h1 : Fwd s a l l2) (h2 : Fwd s b (ignore l2) l3) : Res s l c (k + a + b) res := by
  have := h1.le; have := h1.steps; have := h.steps
  have : l2.pos ≤ l3.pos := h2.le
  have : l3.steps + l2.pos ≤ l2.steps + l3.pos + b := h2.steps
  exact ⟨h.np, h.items, by omega, h.inb,
    fun fn' hfn => ⟨(h.cont fn' hfn).1, (h.cont fn' hfn).2.1, by have := (h.cont fn' hfn).2.2; omega⟩, h.stop⟩

theorem Res.enter {s : Array UInt8} {l l' : L} {c k : Nat} {fn : StateFn} (hg : Good s l') (he : Entry fn l')
    (hm : mu s fn l' < 3 * (s.size - l.pos) + c)
    (hst : l'.steps + l.pos ≤ l.steps + l'.pos + k) : Res s l c k (some fn, l') :=
  ⟨hg.np, hg.items, hst, hg.ps, fun _ h => by cases h; exact ⟨hg, he, hm⟩, nofun⟩

theorem emit_eq (s : Array UInt8) (t : ItemType) (l : L) (h1 : l.start ≤ l.pos) (h2 : l.pos ≤ s.size) :
    emit s t l = { l with items := ⟨t, (s.extract l.start l.pos).toList, l.start, l.pos, .none⟩ :: l.items,
                          start := l.pos } := by
  simp [emit, h1, h2]

theorem errorf_eq (s : Array UInt8) (e : LexErr) (l : L) (h2 : l.pos ≤ s.size) :
    errorf s e l = { l with items := ⟨.error, [], l.start, l.pos, e⟩ :: l.items } := by
  simp [errorf, h2]

theorem emit_res {s : Array UInt8} {l l1 : L} {k c : Nat} (t : ItemType) (hg : Good s l) (hf : Fwd s k l l1)
    (hlt : l.start < l1.pos) (hm : 3 * (s.size - l1.pos) + 1 < 3 * (s.size - l.pos) + c) :
    Res s l c k (some .code, emit s t l1) := by
  have hg1 := hf.good hg
  rw [emit_eq s t l1 hg1.sp hg1.ps]
  exact .enter ⟨Nat.le_refl _, hg1.ps, hg1.np, hg1.items_cons _ _ _, Nat.lt_of_le_of_lt (hf.items ▸ hg.cnt) hlt⟩
    trivial hm hf.steps

/-- The terminal item: what `errorf` pushes, or `emit` of EOF (which also moves `start`). -/
theorem last_res {s : Array UInt8} {l l1 : L} {k c : Nat} (hg : Good s l) (hf : Fwd s k l l1) (t : ItemType)
    (v : List UInt8) (e : LexErr) (st : Nat) :
    Res s l c k (none, { l1 with items := ⟨t, v, l1.start, l1.pos, e⟩ :: l1.items, start := st }) :=
  have hg1 := hf.good hg
  ⟨hg1.np, hg1.items_cons _ _ _, hf.steps, hf.inb, nofun,
    fun _ => Nat.succ_le_succ (Nat.le_trans hg1.cnt (Nat.le_trans hg1.sp hg1.ps))⟩

theorem errorf_res {s : Array UInt8} {l l1 : L} {k c : Nat} (hg : Good s l) (hf : Fwd s k l l1) (e : LexErr) :
    Res s l c k (none, errorf s e l1) := by
  rw [errorf_eq s e l1 hf.inb]
  exact last_res hg hf ..

/-- The closing quote of a string literal: emit at `l1`, then `next` (the quote) and `ignore`. An empty literal
    leaves `start` where it was, so the state after `emit` need not be `Good`; the quote restores the count. -/
theorem emit_skip_res {s : Array UInt8} {l l1 : L} {k c : Nat} (t : ItemType) (hg : Good s l) (hf : Fwd s k l l1)
    (hlt : l1.pos < s.size) : Res s l c k (some .code, ignore (next s (emit s t l1)).2) := by
  have hg1 := hf.good hg
  rw [emit_eq s t l1 hg1.sp hg1.ps]
  obtain ⟨hx, hadv⟩ := next_adv s { l1 with items := _ :: l1.items, start := l1.pos }
    (mt (next_none_iff s _).1 (Nat.not_le.2 hlt))
  generalize (next s _).2 = l3 at hx hadv ⊢
  have hadv : l1.pos < l3.pos := hadv
  have hst : l3.steps + l1.pos ≤ l1.steps + l3.pos + 0 := hx.steps
  have := hf.le; have := hf.steps; have := hg.cnt; have := hg.sp
  refine .enter ⟨Nat.le_refl _, hx.inb, hx.panic.trans hg1.np, hx.items ▸ hg1.items_cons _ _ _, ?_⟩ trivial
    ?_ ?_
  · show l3.items.length ≤ l3.pos
    rw [hx.items, List.length_cons, hf.items]
    omega
  · show 3 * (s.size - l3.pos) + 1 < _
    omega
  · show l3.steps + l.pos ≤ l.steps + l3.pos + k
    omega

theorem Entry.of_lt {fn : StateFn} {l : L} (h : l.start < l.pos) : Entry fn l :=
  match fn with
  | .lineComment => h
  | .code | .blockComment | .stringLiteral => trivial

/-- A two-byte token, or the opener of a comment, at `l.pos`. -/
theorem two_res {s : Array UInt8} {l0 l : L} {k : Nat} {b c : UInt8} (hg : Good s l0) (hf : Fwd s k l0 l)
    (h : hasPrefixAt s l.pos [b, c] = true) :
    (∀ t, Res s l0 1 k (some .code, emit s t { l with pos := l.pos + 2 })) ∧
    ∀ fn, Res s l0 1 k (some fn, { l with pos := l.pos + 2 }) := by
  have hl : l.pos + 2 ≤ max l.pos s.size := hasPrefixAt_len s _ _ h
  have hf2 : Fwd s k l0 { l with pos := l.pos + 2 } := hf.trans (.scan (k := 0) (by omega) (by omega) (by omega))
  have hle := hf.le
  have hlt : l0.start < l.pos + 2 := by have := hg.sp; omega
  refine ⟨fun t => emit_res t hg hf2 hlt (by show 3 * (s.size - (l.pos + 2)) + 1 < _; omega), fun fn => ?_⟩
  have : wt fn ≤ 2 := by cases fn <;> decide
  exact .enter (hf2.good hg) (.of_lt (hf2.start ▸ hlt)) (by show 3 * (s.size - (l.pos + 2)) + wt fn < _; omega)
    hf2.steps

theorem lexCodeTok_res (s : Array UInt8) (r : Nat) (l : L) (hg : Good s l) (hlt : l.pos < s.size) :
    Res s l 1 2 (lexCodeTok s r l) := by
  have hps := hg.ps
  have hsp := hg.sp
  have hr : Fwd s 2 l l := .refl hps
  have hsc := scanIdentifier_spec s l hps
  fun_cases lexCodeTok s r l with
  | case1 => omega
  | case2 _ h | case3 _ _ h | case4 _ _ _ h => exact (two_res hg hr h).1 _
  | case5 _ _ _ _ h | case6 _ _ _ _ _ h => exact (two_res hg hr h).2 _
  | case7 =>
    -- a one-rune token
    obtain ⟨hx, hadv⟩ := next_adv s l (mt (next_none_iff s l).1 (by omega))
    exact emit_res _ hg (hx.mono (Nat.zero_le _)) (by omega) (by omega)
  | case8 => exact .enter hg trivial (by show 3 * (s.size - l.pos) + 0 < _; omega) hr.steps
  | case9 _ _ _ _ _ _ _ _ sc hs | case10 _ _ _ _ _ _ _ _ sc hs =>
    -- a keyword or an identifier
    have hsc : Fwd s 2 l sc.2 ∧ (sc.1 = true → l.pos < sc.2.pos) := hsc
    have := hsc.2 hs
    exact emit_res _ hg hsc.1 (by omega) (by omega)
  | case11 _ _ _ _ _ _ _ _ _ _ hb => exact absurd ⟨(hsc.1.good hg).sp, (hsc.1.good hg).ps⟩ hb
  | case12 => exact errorf_res hg hsc.1 _

theorem lexCode_res (s : Array UInt8) (l : L) (hg : Good s l) : Res s l 1 4 (lexCode s l) := by
  have hr := acceptRun_spec s isSpace (s.size + 1) l hg.ps (by omega)
  have hg2 := (hr.good hg).ignore
  obtain ⟨hpf, hpos, hnone⟩ := peek_spec s _ hg2.ps
  have hg3 := hpf.good hg2
  fun_cases lexCode s l with
  | case1 =>
    rw [emit_eq s _ _ hg3.sp hg3.ps]
    -- `k := 2`: the bound of the other branch
    exact (last_res hg3 (.refl (k := 2) hg3.ps) ..).rebase hr hpf
  | case2 pk r hsome =>
    have hlt : pk.2.pos < s.size := hpos ▸ Nat.lt_of_not_le fun h => nomatch hsome.symm.trans (hnone.2 h)
    exact (lexCodeTok_res s r pk.2 hg3 hlt).rebase hr hpf

theorem lineCommentLoop_res (s : Array UInt8) (l0 : L) (hg : Good s l0) (he : l0.start < l0.pos) (n : Nat) (l : L)
    (k : Nat) (hf : Fwd s k l0 l) (hn : s.size - l.pos < n) : Res s l0 2 (k + 1) (lineCommentLoop s n l) := by
  fun_induction lineCommentLoop s n l with
  | case1 => omega
  | case2 n l r | case3 n l r =>
    -- the end of the input or of the line
    have hfb : Fwd s (k + 1) l0 (backup r.2) := hf.trans (backup_next_fwd s l hf.inb)
    have := hfb.le
    exact emit_res _ hg hfb (by omega) (by omega)
  | case4 n l r c hc _ ih =>
    obtain ⟨hx, hadv⟩ : Fwd s 0 l r.2 ∧ l.pos < r.2.pos := next_adv s l (hc ▸ nofun)
    have := hx.inb
    exact ih (hf.trans hx) (by omega)

/-- `r` is what the last `peek`/`next` returned: a rune leaves one more step to pay and one more iteration to run,
    the one that finds the end of the input. -/
theorem blockCommentLoop_res (s : Array UInt8) (l0 : L) (hg : Good s l0) (n : Nat) (r : Option Nat) (l : L) (k : Nat)
    (hf : Fwd s k l0 l) (hn : (s.size - l.pos) + (if r.isSome then 1 else 0) < n) :
    Res s l0 2 (k + (if r.isSome then 1 else 0)) (blockCommentLoop s n r l) := by
  fun_induction blockCommentLoop s n r l generalizing k with
  | case1 => omega
  | case2 n l => exact errorf_res hg hf _
  | case3 n l _ hlt => exact absurd hf.inb (Nat.not_le.2 hlt)
  | case4 n l _ _ hpre => exact ((two_res hg hf hpre).1 _).mono (by omega) (by omega)
  | case5 n l _ _ _ nx ih =>
    simp only [Option.isSome_some, if_true] at hn ⊢
    cases hnx : nx.1 with
    | none =>
      have hx : Fwd s 1 l nx.2 := next_fwd s l hf.inb
      have := hx.le
      simpa [hnx] using ih (k + 1) (hf.trans hx) (by simp [hnx]; omega)
    | some c =>
      obtain ⟨hx, hadv⟩ : Fwd s 0 l nx.2 ∧ l.pos < nx.2.pos := next_adv s l (hnx ▸ nofun)
      have := hx.inb
      simpa [hnx] using ih k (hf.trans hx) (by simp [hnx]; omega)

theorem stringLoop_res (s : Array UInt8) (q : Option Nat) (l0 : L) (hg : Good s l0) (n : Nat) (l : L) (k : Nat)
    (hf : Fwd s k l0 l) (hn : s.size - l.pos < n) : Res s l0 0 (k + 1) (stringLoop s q n l) := by
  fun_induction stringLoop s q n l with
  | case1 => omega
  | case2 n l => exact errorf_res hg (hf.trans (next_fwd s l hf.inb)) _
  | case3 n l r c hc =>
    -- the closing quote
    have hlt : l.pos < s.size := Nat.lt_of_not_le (mt (next_none_iff s l).2 (hc ▸ nofun))
    have hfb : Fwd s (k + 1) l0 (backup r.2) := hf.trans (backup_next_fwd s l hf.inb)
    have : (backup r.2).pos = l.pos := (congrArg L.pos (backup_next s l) :)
    exact emit_skip_res _ hg hfb (by omega)
  | case4 n l r c hc _ ih =>
    obtain ⟨hx, hadv⟩ : Fwd s 0 l r.2 ∧ l.pos < r.2.pos := next_adv s l (hc ▸ nofun)
    have := hx.inb
    exact ih (hf.trans hx) (by omega)

theorem stepFn_res (s : Array UInt8) (fn : StateFn) (l : L) (hg : Good s l) (he : Entry fn l) :
    Res s l (wt fn) 4 (stepFn s fn l) := by
  have hps := hg.ps
  -- each loop is given the `k` (its own, or that of `Fwd.refl`) that brings its bound to 4
  cases fn with
  | code => exact lexCode_res s l hg
  | lineComment => exact lineCommentLoop_res s l hg he (s.size + 1) l 3 (.refl hps) (by omega)
  | blockComment =>
    obtain ⟨hpf, hpos, -⟩ := peek_spec s l hps
    refine (blockCommentLoop_res s l hg (s.size + 2) (peek s l).1 (peek s l).2 1 hpf ?_).mono (Nat.le_refl _) ?_
    · rw [hpos]
      split <;> omega
    · split <;> omega
  | stringLiteral =>
    have hx := next_fwd s l hps
    have hg0 := (hx.good hg).ignore
    exact (stringLoop_res s (next s l).1 _ hg0 (s.size + 1) _ 2 (.refl hg0.ps)
      (by show s.size - (next s l).2.pos < _; omega)).rebase hx (.refl (k := 0) hg0.ps)

theorem Good.tick {s : Array UInt8} {l : L} (h : Good s l) : Good s { l with steps := l.steps + 1 } :=
  ⟨h.sp, h.ps, h.np, h.items, h.cnt⟩

/-- What a run of the lexer from `l0` achieved, `m` being the measure it started with. -/
structure Ran (s : Array UInt8) (l0 : L) (m : Nat) (l : L) : Prop where
  np : l.panic = false
  items : ∀ i ∈ l.items, itemOk s i
  count : l.items.length ≤ s.size + 1
  steps : l.steps ≤ l0.steps + (s.size - l0.pos) + 5 * (m + 1)

theorem runLex_res (s : Array UInt8) (n : Nat) (fn : StateFn) (l : L) (hg : Good s l) (he : Entry fn l)
    (hn : mu s fn l < n) : Ran s l (mu s fn l) (runLex s n fn l) := by
  fun_induction runLex s n fn l with
  | case1 => omega
  | case2 n fn l r hnone =>
    have hres : Res s _ (wt fn) 4 r := stepFn_res s fn _ hg.tick he
    have hst : r.2.steps + l.pos ≤ l.steps + 1 + r.2.pos + 4 := hres.steps
    have := hres.inb
    exact ⟨hres.np, hres.items, hres.stop hnone, by omega⟩
  | case3 n fn l r fn' hsome ih =>
    have hres : Res s _ (wt fn) 4 r := stepFn_res s fn _ hg.tick he
    obtain ⟨hg', he', hmu⟩ := hres.cont fn' hsome
    have hmu : mu s fn' r.2 < mu s fn l := hmu
    have hst : r.2.steps + l.pos ≤ l.steps + 1 + r.2.pos + 4 := hres.steps
    have := hres.inb
    have h := ih hg' he' (by omega)
    exact ⟨h.np, h.items, h.count, by have := h.steps; omega⟩

theorem lex_ok (s : Array UInt8) :
    (lex s).panic = false ∧ (∀ i ∈ (lex s).items, itemOk s i) ∧ (lex s).items.length ≤ s.size + 1 ∧
    (lex s).steps ≤ 16 * s.size + 10 := by
  have hg : Good s ({} : L) := ⟨Nat.le_refl _, Nat.zero_le _, rfl, List.forall_mem_nil _, Nat.le_refl _⟩
  have h := runLex_res s (lexFuel s.size) .code {} hg trivial (by show 3 * (s.size - 0) + 1 < 3 * s.size + 3; omega)
  have h4 : (lex s).steps ≤ 0 + (s.size - 0) + 5 * (3 * (s.size - 0) + 1 + 1) := h.steps
  exact ⟨h.np, fun i hi => h.items i (List.mem_reverse.1 hi), Nat.le_trans (Nat.le_of_eq List.length_reverse) h.count,
    by omega⟩

end Keto.Opl
