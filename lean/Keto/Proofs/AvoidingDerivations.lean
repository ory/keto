/-
  Derivations of the positive semantics `Mem` / `Holds` with a height bound: `MemN V k t` / `HoldsN V k ch t`,
  whose subject-set expansions avoid the nodes of `V`, and `MemA A k t` / `HoldsA A k ch t`, in which no node at
  all, the root included, has its key in `A`; and what a visited-set search over the former establishes for a
  run (`RunOK`).
  These are characterisations of `Mem` only: the exactness proof of the engine (Keto/Proofs/EngineExact*.lean)
  and the correctness proof of `refEval` (Keto/Proofs/StratifiedLemmas.lean) rest on refutations (`FaE`, `FaN`),
  not on them.
-/
import Keto.Spec.Membership
import Keto.Proofs.Height
import Keto.Proofs.EngineFrame

namespace Keto

mutual
inductive MemN (c : Cfg) (T : List Tuple) (V : List VKey) : Nat → Tuple → Prop where
  | direct (k : Nat) (t : Tuple) : t ∈ T → MemN c T V (k+1) t
  | expand (k : Nat) (t : Tuple) (n : String) (o : Nat) (r : String) :
      ⟨t.ns, t.obj, t.rel, .set n o r⟩ ∈ T → (n, o, r) ∉ V → MemN c T V k ⟨n, o, r, t.sub⟩ →
      MemN c T V (k+1) t
  | rewrite (k : Nat) (t : Tuple) (R : Relation) (rw : Rewrite) :
      astRelationFor c t.ns t.rel = .rel R → R.rewrite = some rw →
      HoldsN c T V k (.rewrite rw.op rw.children) t → MemN c T V (k+1) t
inductive HoldsN (c : Cfg) (T : List Tuple) (V : List VKey) : Nat → Child → Tuple → Prop where
  | computed (k : Nat) (t : Tuple) (rel : String) :
      MemN c T V k { t with rel := rel } → HoldsN c T V (k+1) (.computed rel) t
  | ttu (k : Nat) (t : Tuple) (rel crel : String) (n : String) (o : Nat) (r : String) :
      ⟨t.ns, t.obj, rel, .set n o r⟩ ∈ T → MemN c T V k ⟨n, o, crel, t.sub⟩ →
      HoldsN c T V (k+1) (.ttu rel crel) t
  | or (k : Nat) (t : Tuple) (cs : List Child) (ch : Child) :
      ch ∈ cs → HoldsN c T V k ch t → HoldsN c T V (k+1) (.rewrite .or cs) t
  | and (k : Nat) (t : Tuple) (cs : List Child) :
      cs ≠ [] → (∀ ch, ch ∈ cs → HoldsN c T V k ch t) → HoldsN c T V (k+1) (.rewrite .and cs) t
end

variable {c : Cfg} {T : List Tuple}

theorem memN_holdsN_mono {V V' : List VKey} (hV : ∀ s, s ∈ V' → s ∈ V) : ∀ k k', k ≤ k' →
    (∀ t, MemN c T V k t → MemN c T V' k' t) ∧
    (∀ ch t, HoldsN c T V k ch t → HoldsN c T V' k' ch t) := by
  intro k
  induction k with
  | zero =>
    intro k' _
    constructor
    · intro t h; cases h
    · intro ch t h; cases h
  | succ k ih =>
    intro k' hk
    obtain ⟨j, rfl⟩ : ∃ j, k' = j + 1 := ⟨k' - 1, by omega⟩
    have ih := ih j (by omega)
    constructor
    · intro t h
      cases h with
      | direct _ _ hm => exact .direct _ _ hm
      | expand _ _ n o r h1 h2 h3 => exact .expand _ _ n o r h1 (fun hin => h2 (hV _ hin)) (ih.1 _ h3)
      | rewrite _ _ R rw h1 h2 h3 => exact .rewrite _ _ R rw h1 h2 (ih.2 _ _ h3)
    · intro ch t h
      cases h with
      | computed _ _ rel h1 => exact .computed _ _ rel (ih.1 _ h1)
      | ttu _ _ rel crel n o r h1 h2 => exact .ttu _ _ rel crel n o r h1 (ih.1 _ h2)
      | or _ _ cs ch hm h1 => exact .or _ _ cs ch hm (ih.2 _ _ h1)
      | and _ _ cs hne hall => exact .and _ _ cs hne (fun ch hm => ih.2 _ _ (hall ch hm))

theorem MemN.to_nil {V : List VKey} {k : Nat} {t : Tuple} (h : MemN c T V k t) : MemN c T [] k t :=
  (memN_holdsN_mono (fun _ hs => by cases hs) k k (Nat.le_refl _)).1 t h

theorem mem_holds_of_N : ∀ k,
    (∀ t, MemN c T [] k t → Mem c T t) ∧ (∀ ch t, HoldsN c T [] k ch t → Holds c T ch t) := by
  intro k
  induction k with
  | zero =>
    constructor
    · intro t h; cases h
    · intro ch t h; cases h
  | succ k ih =>
    constructor
    · intro t h
      cases h with
      | direct _ _ hm => exact .direct _ hm
      | expand _ _ n o r h1 _ h3 => exact .expand _ n o r h1 (ih.1 _ h3)
      | rewrite _ _ R rw h1 h2 h3 => exact .rewrite _ R rw h1 h2 (ih.2 _ _ h3)
    · intro ch t h
      cases h with
      | computed _ _ rel h1 => exact .computed _ rel (ih.1 _ h1)
      | ttu _ _ rel crel n o r h1 h2 => exact .ttu _ rel crel n o r h1 (ih.1 _ h2)
      | or _ _ cs ch hm h1 => exact .or _ cs ch hm (ih.2 _ _ h1)
      | and _ _ cs hne hall => exact .and _ cs hne (fun ch hm => ih.2 _ _ (hall ch hm))

theorem memN_of_mem {t : Tuple} (h : Mem c T t) : ∃ k, MemN c T [] k t := by
  refine Mem.rec (motive_1 := fun t _ => ∃ k, MemN c T [] k t)
    (motive_2 := fun ch t _ => ∃ k, HoldsN c T [] k ch t) ?_ ?_ ?_ ?_ ?_ ?_ ?_ h
  · intro t hm
    exact ⟨1, .direct _ _ hm⟩
  · intro t n o r h1 _ ih
    obtain ⟨k, hk⟩ := ih
    exact ⟨k+1, .expand _ _ n o r h1 (by intro h; cases h) hk⟩
  · intro t R rw h1 h2 _ ih
    obtain ⟨k, hk⟩ := ih
    exact ⟨k+1, .rewrite _ _ R rw h1 h2 hk⟩
  · intro t rel _ ih
    obtain ⟨k, hk⟩ := ih
    exact ⟨k+1, .computed _ _ rel hk⟩
  · intro t rel crel n o r h1 _ ih
    obtain ⟨k, hk⟩ := ih
    exact ⟨k+1, .ttu _ _ rel crel n o r h1 hk⟩
  · intro t cs ch hm _ ih
    obtain ⟨k, hk⟩ := ih
    exact ⟨k+1, .or _ _ cs ch hm hk⟩
  · intro t cs hne _ ih
    obtain ⟨K, hK⟩ := common_height (fun K ch => HoldsN c T [] K ch t)
      (fun k k' ch hk h => (memN_holdsN_mono (fun _ hs => hs) k k' hk).2 ch t h) cs ih
    exact ⟨K+1, .and _ _ cs hne hK⟩

theorem mem_iff_memN (t : Tuple) : Mem c T t ↔ ∃ k, MemN c T [] k t :=
  ⟨memN_of_mem, fun ⟨k, h⟩ => (mem_holds_of_N k).1 t h⟩

/-- Node `s` (for subject `sub`) is not derivable avoiding `V`. -/
def DeadK (c : Cfg) (T : List Tuple) (sub : Subject) (V : List VKey) (s : VKey) : Prop :=
  ∀ k, ¬ MemN c T V k ⟨s.1, s.2.1, s.2.2, sub⟩

/-- `V1` extends `V0` by nodes that are dead w.r.t. `V0`. -/
structure Ext (c : Cfg) (T : List Tuple) (sub : Subject) (V0 V1 : List VKey) : Prop where
  subset : ∀ s, s ∈ V0 → s ∈ V1
  dead : ∀ s, s ∈ V1 → s ∈ V0 ∨ DeadK c T sub V0 s

/-- What a run at `(c, w)` with outcome `out` establishes for the visited set of `c`, when `P V` says "the
    claim of the call is derivable avoiding `V`": without a decisive result and with no limit event so far,
    the marks the run added are dead and the claim is not derivable. -/
structure RunOK (E : Env) (sub : Subject) (P : List VKey → Prop) (c : Ctx) (w : World) (out : Res × World) :
    Prop where
  frame : Frame c.vref w out.2
  neg : out.1.decisive = false → out.2.limitHits = 0 →
    Ext E.cfg E.T sub (vis c w) (vis c out.2) ∧ ¬ P (vis c w)

/-- A thunk built when `lh` limit events had happened: whenever it is run later. -/
def ThunkOK (E : Env) (sub : Subject) (P : List VKey → Prop) (lh : Nat) (th : Thunk) : Prop :=
  ∀ c w, Valid c w → lh ≤ w.limitHits → RunOK E sub P c w (th c w)

theorem ThunkOK.imp {E : Env} {sub : Subject} {P P' : List VKey → Prop} {lh : Nat} {th : Thunk}
    (h : ThunkOK E sub P lh th) (himp : ∀ V, P' V → P V) : ThunkOK E sub P' lh th :=
  fun c w hv hl => ⟨(h c w hv hl).frame, fun hd hlim =>
    ⟨((h c w hv hl).neg hd hlim).1, fun hp => ((h c w hv hl).neg hd hlim).2 (himp _ hp)⟩⟩

mutual
inductive MemA (c : Cfg) (T : List Tuple) (A : List VKey) : Nat → Tuple → Prop where
  | direct (k : Nat) (t : Tuple) : (t.ns, t.obj, t.rel) ∉ A → t ∈ T → MemA c T A (k+1) t
  | expand (k : Nat) (t : Tuple) (n : String) (o : Nat) (r : String) :
      (t.ns, t.obj, t.rel) ∉ A → ⟨t.ns, t.obj, t.rel, .set n o r⟩ ∈ T → MemA c T A k ⟨n, o, r, t.sub⟩ →
      MemA c T A (k+1) t
  | rewrite (k : Nat) (t : Tuple) (R : Relation) (rw : Rewrite) :
      (t.ns, t.obj, t.rel) ∉ A → astRelationFor c t.ns t.rel = .rel R → R.rewrite = some rw →
      HoldsA c T A k (.rewrite rw.op rw.children) t → MemA c T A (k+1) t
inductive HoldsA (c : Cfg) (T : List Tuple) (A : List VKey) : Nat → Child → Tuple → Prop where
  | computed (k : Nat) (t : Tuple) (rel : String) :
      MemA c T A k { t with rel := rel } → HoldsA c T A (k+1) (.computed rel) t
  | ttu (k : Nat) (t : Tuple) (rel crel : String) (n : String) (o : Nat) (r : String) :
      ⟨t.ns, t.obj, rel, .set n o r⟩ ∈ T → MemA c T A k ⟨n, o, crel, t.sub⟩ →
      HoldsA c T A (k+1) (.ttu rel crel) t
  | or (k : Nat) (t : Tuple) (cs : List Child) (ch : Child) :
      ch ∈ cs → HoldsA c T A k ch t → HoldsA c T A (k+1) (.rewrite .or cs) t
  | and (k : Nat) (t : Tuple) (cs : List Child) :
      cs ≠ [] → (∀ ch, ch ∈ cs → HoldsA c T A k ch t) → HoldsA c T A (k+1) (.rewrite .and cs) t
end

theorem memA_holdsA_mono (A : List VKey) : ∀ k k', k ≤ k' →
    (∀ t, MemA c T A k t → MemA c T A k' t) ∧
    (∀ ch t, HoldsA c T A k ch t → HoldsA c T A k' ch t) := by
  intro k
  induction k with
  | zero =>
    refine fun _ _ => ⟨?_, ?_⟩
    · intro t h; cases h
    · intro ch t h; cases h
  | succ k ih =>
    intro k' hk
    obtain ⟨j, rfl⟩ : ∃ j, k' = j + 1 := ⟨k' - 1, by omega⟩
    have ih := ih j (by omega)
    constructor
    · intro t h
      cases h with
      | direct _ _ hk hm => exact .direct _ _ hk hm
      | expand _ _ n o r hk h1 h3 => exact .expand _ _ n o r hk h1 (ih.1 _ h3)
      | rewrite _ _ R rw hk h1 h2 h3 => exact .rewrite _ _ R rw hk h1 h2 (ih.2 _ _ h3)
    · intro ch t h
      cases h with
      | computed _ _ rel h1 => exact .computed _ _ rel (ih.1 _ h1)
      | ttu _ _ rel crel n o r h1 h2 => exact .ttu _ _ rel crel n o r h1 (ih.1 _ h2)
      | or _ _ cs ch hm h1 => exact .or _ _ cs ch hm (ih.2 _ _ h1)
      | and _ _ cs hne hall => exact .and _ _ cs hne (fun ch hm => ih.2 _ _ (hall ch hm))

theorem MemA.mono_k {A : List VKey} {k k' : Nat} {t : Tuple} (h : MemA c T A k t) (hk : k ≤ k') :
    MemA c T A k' t :=
  (memA_holdsA_mono A _ _ hk).1 _ h

theorem mem_holds_of_A (A : List VKey) : ∀ k,
    (∀ t, MemA c T A k t → Mem c T t) ∧ (∀ ch t, HoldsA c T A k ch t → Holds c T ch t) := by
  intro k
  induction k with
  | zero =>
    constructor
    · intro t h; cases h
    · intro ch t h; cases h
  | succ k ih =>
    constructor
    · intro t h
      cases h with
      | direct _ _ _ hm => exact .direct _ hm
      | expand _ _ n o r _ h1 h3 => exact .expand _ n o r h1 (ih.1 _ h3)
      | rewrite _ _ R rw _ h1 h2 h3 => exact .rewrite _ R rw h1 h2 (ih.2 _ _ h3)
    · intro ch t h
      cases h with
      | computed _ _ rel h1 => exact .computed _ rel (ih.1 _ h1)
      | ttu _ _ rel crel n o r h1 h2 => exact .ttu _ rel crel n o r h1 (ih.1 _ h2)
      | or _ _ cs ch hm h1 => exact .or _ cs ch hm (ih.2 _ _ h1)
      | and _ _ cs hne hall => exact .and _ cs hne (fun ch hm => ih.2 _ _ (hall ch hm))

end Keto
