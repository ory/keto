/-
  Fact tie for C16 (see Keto/Proofs/FactsTie.lean): the one UUID derivation site.
-/
import Keto.Generated.Facts

namespace Keto.FactsTie
open Keto.Facts

/-- Where the UUIDs of names come from: ONE derivation, `uuid.NewV5(p.NetworkID(ctx), s)` (the network of the
    request, contextualizer applied), in the read-only mapping method; the writing method calls it. -/
def expectedUUIDDerive : List (String × String × String) := [
  ("internal/persistence/sql/uuid_mapping.go", "Persister.MapStringsToUUIDs", "calls:MapStringsToUUIDsReadOnly"),
  ("internal/persistence/sql/uuid_mapping.go", "Persister.MapStringsToUUIDsReadOnly", "NewV5:p.NetworkID(ctx)")]

theorem uuidDerive_tie : uuidDerive = expectedUUIDDerive := rfl

end Keto.FactsTie
