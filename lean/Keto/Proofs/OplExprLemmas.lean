/-
  C10 helper lemmas: what the parser model does on the tokens of a rendered TypeScript
  expression, atom by atom (`parseAtom_spec`) and level by level (`spec_all`: the expression loop
  reads `render e` as the left-to-right reader `l2r` does).
-/
import Keto.Model.Parser
import Keto.Proofs.OplMatch
import Keto.Proofs.OplParseLemmas
import Keto.Proofs.TSBoolLemmas

namespace Keto.Opl
open Keto Keto.TS

/-! ### what the statements of C10 are written in -/

/-- A token as the parser sees it (positions play no role in parsing). -/
def tk (t : ItemType) (v : List UInt8) : Item := ⟨t, v, 0, 0, .none⟩

def tThis := tk .kwThis b!"this"
def tCtx := tk .kwCtx b!"ctx"
def tDot := tk .opDot b!"."
def tLP := tk .parenLeft b!"("
def tRP := tk .parenRight b!")"
def tLB := tk .bracketLeft b!"["
def tRB := tk .bracketRight b!"]"
def tComma := tk .opComma b!","
def tArrow := tk .opArrow b!"=>"
def tAnd := tk .opAnd b!"&&"
def tOr := tk .opOr b!"||"
def tNot := tk .opNot b!"!"
def tId (v : List UInt8) := tk .identifier v

/-- `.name` or `[name]`. -/
def access (bracket : Bool) (name : Item) : List Item :=
  if bracket then [tLB, name, tRB] else [tDot, name]

/-- The permission checks of the grammar, in their spellings. `name`/`cname` are the
    tokens naming the relations (an identifier after `.`, a string literal inside `[ ]`),
    `v` is the lambda variable of `traverse`. -/
inductive Atom where
  /-- `this.related.R.includes(ctx.subject)` -/
  | includes (bracket : Bool) (name : Item)
  /-- `this.permits.P(ctx)` -/
  | permits (bracket : Bool) (name : Item)
  /-- `this.related.R.traverse((v) => v.permits.P(ctx))` -/
  | traverseP (bracket : Bool) (name : Item) (parenArg : Bool) (v : Item) (cbracket : Bool) (cname : Item)
  /-- `this.related.R.traverse((v) => v.related.S.includes(ctx.subject,),)` -/
  | traverseR (bracket : Bool) (name : Item) (parenArg : Bool) (v : Item) (cbracket : Bool) (cname : Item)
      (comma1 comma2 : Bool)
  deriving Repr, Inhabited

def argToks (parenArg : Bool) (v : Item) : List Item := if parenArg then [tLP, v, tRP] else [v]
def optComma (b : Bool) : List Item := if b then [tComma] else []

def Atom.toks : Atom → List Item
  | .includes b name =>
    [tThis, tDot, tId b!"related"] ++ access b name ++ [tDot, tId b!"includes", tLP, tCtx, tDot, tId b!"subject", tRP]
  | .permits b name => [tThis, tDot, tId b!"permits"] ++ access b name ++ [tLP, tCtx, tRP]
  | .traverseP b name pa v cb cname =>
    [tThis, tDot, tId b!"related"] ++ access b name ++ [tDot, tId b!"traverse", tLP] ++ argToks pa v ++
      [tArrow, v, tDot, tId b!"permits"] ++ access cb cname ++ [tLP, tCtx, tRP, tRP]
  | .traverseR b name pa v cb cname c1 c2 =>
    [tThis, tDot, tId b!"related"] ++ access b name ++ [tDot, tId b!"traverse", tLP] ++ argToks pa v ++
      [tArrow, v, tDot, tId b!"related"] ++ access cb cname ++
      [tDot, tId b!"includes", tLP, tCtx, tDot, tId b!"subject"] ++ optComma c1 ++ [tRP] ++ optComma c2 ++ [tRP]

def Atom.leaf : Atom → Child
  | .includes _ name => .computed (bstr name.val)
  | .permits _ name => .computed (bstr name.val)
  | .traverseP _ name _ _ _ cname => .ttu (bstr name.val) (bstr cname.val)
  | .traverseR _ name _ _ _ cname _ _ => .ttu (bstr name.val) (bstr cname.val)

def isName (i : Item) : Prop := i.typ = .identifier ∨ i.typ = .stringLiteral

/-- Side conditions on the tokens: the lambda variable is a real token other than `(`, the
    traversed relation is named by an identifier or a string literal. -/
def Atom.wf : Atom → Prop
  | .includes _ _ => True
  | .permits _ _ => True
  | .traverseP _ _ _ v _ cname => v.typ ≠ .error ∧ v.typ ≠ .parenLeft ∧ isName cname
  | .traverseR _ _ _ v _ cname _ _ => v.typ ≠ .error ∧ v.typ ≠ .parenLeft ∧ isName cname

/-- The deferred checks an atom adds (latest first). -/
def Atom.checks (cur : String) : Atom → List TypeCheck
  | .includes _ name => [.curNsHasRelation cur name]
  | .permits _ name => [.curNsHasRelation cur name]
  | .traverseP _ name _ _ _ cname => [.curNsHasRelation cur name, .allTypesHaveRelation cur name (bstr cname.val)]
  | .traverseR _ name _ _ _ cname _ _ => [.curNsHasRelation cur name, .allTypesHaveRelation cur name (bstr cname.val)]

def afterAtom (a : Atom) (rest : List Item) (p : P) : P :=
  { p with toks := rest, steps := p.steps + a.toks.length, checks := a.checks p.ns.name ++ p.checks }

def itemsOf : Tok Atom → List Item
  | .atom a => a.toks
  | .and => [tAnd]
  | .or => [tOr]
  | .not => [tNot]
  | .lp => [tLP]
  | .rp => [tRP]

def toksOf (e : E Atom) : List Item := (render e).flatMap itemsOf

/-- `render e` stays within nesting depth `depth` (a `(` costs one level, a `!` one more),
    contains no `!!`, and its atoms are well formed. -/
def fits : Nat → E Atom → Prop
  | _, .atom a => a.wf
  | d, .group e => d - 1 ≠ 0 ∧ fits (d - 1) e
  | d, .not (.atom a) => d - 1 ≠ 0 ∧ a.wf
  | d, .not (.group x) => d - 1 ≠ 0 ∧ d - 1 - 1 ≠ 0 ∧ fits (d - 1 - 1) x
  | _, .not (.not _) => False
  | d, .not (.and l r) => d - 1 ≠ 0 ∧ d - 1 - 1 ≠ 0 ∧ fits (d - 1 - 1) (.and l r)
  | d, .not (.or l r) => d - 1 ≠ 0 ∧ d - 1 - 1 ≠ 0 ∧ fits (d - 1 - 1) (.or l r)
  | d, .and l r => (if prec l < 2 then d - 1 ≠ 0 ∧ fits (d - 1) l else fits d l) ∧
                   (if prec r < 3 then d - 1 ≠ 0 ∧ fits (d - 1) r else fits d r)
  | d, .or l r => (if prec l < 1 then d - 1 ≠ 0 ∧ fits (d - 1) l else fits d l) ∧
                  (if prec r < 2 then d - 1 ≠ 0 ∧ fits (d - 1) r else fits d r)

theorem valIs_self (v : Item) (h : v.typ ≠ .error) : valIs v v.val = true := by
  simp [valIs, h]

@[simp] theorem tk_typ (t : ItemType) (v : List UInt8) : (tk t v).typ = t := rfl
@[simp] theorem tk_val (t : ItemType) (v : List UInt8) : (tk t v).val = v := rfl

theorem valIs_tk (t : ItemType) (v w : List UInt8) : valIs (tk t v) w = (if t == .error then false else v == w) := by
  simp [valIs, tk]

/-! ### the parser on known items

The proofs below run the parser on a state whose remaining items are written out. `onToks p l k` is the normal form of
such a state; the rules below rewrite one parser action on it into the next normal form, with `match` evaluated
by `matchL` on the items (`mtch_eq`). Their left sides bind `l`, so `simp` can chain them through a whole
production without the spellings of an atom being split into cases. -/

/-- The state after `k` calls of `next` that left the items `rest`. (`P.adv` of OplMatch.lean drops items instead:
    `(onToks p l k).adv j = onToks p (l.drop j) (k + j)`, see `fin_on`.) Whoever names the state after a header hands
    over the count: one per item matched, two (`tick` and `next`) for the item a loop pulls. -/
def onToks (p : P) (rest : List Item) (k : Nat) : P := { p with toks := rest, steps := p.steps + k }

theorem eq_onToks_zero {p : P} {l : List Item} (h : p.toks = l) : p = onToks p l 0 := by
  rw [← h]
  rfl

theorem fin_on (p : P) (l : List Item) (k j : Nat) (err : Option (Item × ErrKind)) :
    (onToks p l k).fin j err =
      match err with
      | none => onToks p (l.drop j) (k + j)
      | some e => (onToks p (l.drop j) (k + j)).addFatal e.1 e.2 := by
  cases err <;> simp [P.fin, P.adv, onToks, Nat.add_assoc]

theorem mtch_on (p : P) (l : List Item) (k : Nat) (pats : List Pat) (hf : p.fatal = false) :
    (onToks p l k).mtch pats =
      ((matchL pats l [] 0).ok, (matchL pats l [] 0).caps,
        (onToks p l k).fin (matchL pats l [] 0).k (matchL pats l [] 0).err) := by
  rw [mtch_eq, show (onToks p l k).fatal = false from hf, show (onToks p l k).toks = l from rfl]
  rfl

theorem mtchIf_on (p : P) (l : List Item) (k : Nat) (typ : ItemType) (pats : List Pat) (hf : p.fatal = false) :
    (onToks p l k).mtchIf typ pats =
      if (l.headD brokenItem).typ != typ then (false, [], onToks p l k) else (onToks p l k).mtch pats := by
  rw [mtchIf_eq, show (onToks p l k).fatal = false from hf, show (onToks p l k).toks = l from rfl]
  simp

theorem next_on (p : P) (l : List Item) (k : Nat) :
    (onToks p l k).next = (l.headD brokenItem, onToks p l.tail (k + 1)) := by
  cases l <;> simp [P.next, onToks, Nat.add_assoc]

theorem onToks_fatal (p : P) (l : List Item) (k : Nat) : (onToks p l k).fatal = p.fatal := rfl

theorem peek_on (p : P) (l : List Item) (k : Nat) : (onToks p l k).peek = l.headD brokenItem := rfl

theorem next_addCheck (q : P) (c : TypeCheck) : (q.addCheck c).next = (q.next.1, q.next.2.addCheck c) := by
  rw [next_eq, next_eq]
  rfl

theorem tick_on (p : P) (l : List Item) (k : Nat) : (onToks p l k).tick = onToks p l (k + 1) := rfl

theorem mpa_access (pat : Pat) (b : Bool) (name : Item) (hp : pat = .item ∨ (pat = .ident ∧ isName name)) (p : P)
    (l : List Item) (k : Nat) (hf : p.fatal = false) :
    matchPropertyAccess pat (onToks p (access b name ++ l) k) =
      (true, [name], onToks p l (k + (access b name).length)) := by
  rcases hp with rfl | ⟨rfl, hn⟩
  · cases b <;>
      simp [matchPropertyAccess, mtch_on, mtchIf_on, hf, access, matchL, MRes.ok, fin_on, valIs_tk, tLB, tRB, tDot]
  · have hn' : name.typ = .identifier ∨ name.typ = .stringLiteral := hn
    cases b <;>
      simp [matchPropertyAccess, mtch_on, mtchIf_on, hf, access, matchL, MRes.ok, fin_on, valIs_tk, tLB, tRB, tDot,
        hn']

/-- `(v) =>` / `v =>` is a `switch` in the code, not a production of its own: both spellings give `v`. -/
theorem arg_switch (pa : Bool) (v : Item) (hv : v.typ ≠ .parenLeft) (p : P) (l : List Item) (k : Nat)
    (hf : p.fatal = false) :
    (if ((onToks p (argToks pa v ++ l) k).mtchIf .parenLeft [.lit b!"(", .item, .lit b!")"]).1 = true then
        (onToks p (argToks pa v ++ l) k).mtchIf .parenLeft [.lit b!"(", .item, .lit b!")"]
      else ((onToks p (argToks pa v ++ l) k).mtchIf .parenLeft [.lit b!"(", .item, .lit b!")"]).2.2.mtch [.item]) =
      (true, [v], onToks p l (k + (argToks pa v).length)) := by
  cases pa <;> simp [argToks, mtchIf_on, mtch_on, hf, hv, matchL, MRes.ok, fin_on, valIs_tk, tLP, tRP]

/-- An optional `,` that, if absent, is not followed by a `,`. -/
theorem optL_comma (c : Bool) (l : List Item) (hc : c = false → valIs (l.headD brokenItem) b!"," = false) :
    optL [b!","] (optComma c ++ l) = ((optComma c).length, none) := by
  cases c with
  | true => simp [optL, restL, optComma, valIs_tk, tComma]
  | false =>
    show (if valIs (l.headD brokenItem) b!"," = true then restL [] l.tail 1 else (0, none)) = (0, none)
    rw [hc rfl]
    rfl

theorem parseAtom_spec (a : Atom) (hw : a.wf) (p : P) (rest : List Item) (hf : p.fatal = false)
    (ht : p.toks = a.toks ++ rest) :
    parsePermissionExpression p = (some a.leaf, afterAtom a rest p) := by
  conv => lhs; rw [eq_onToks_zero ht]
  cases a with
  | includes b name =>
    simp [parsePermissionExpression, parseComputedSubjectSet, mtch_on, next_on, mpa_access, hf, matchL, MRes.ok,
      fin_on, valIs_tk, Atom.toks, tThis, tDot, tId, tLP, tRP, tCtx, cap, lits]
    refine ⟨rfl, ?_⟩
    simp [afterAtom, onToks, P.addCheck, Atom.toks, Atom.checks]
    omega
  | permits b name =>
    simp [parsePermissionExpression, mtch_on, mpa_access, hf, matchL, MRes.ok, fin_on, valIs_tk, Atom.toks, tThis,
      tDot, tId, tLP, tRP, tCtx, cap, lits]
    refine ⟨rfl, ?_⟩
    simp [afterAtom, onToks, P.addCheck, Atom.toks, Atom.checks]
    omega
  | traverseP b name pa v cb cname =>
    obtain ⟨hv1, hv2, hc⟩ := hw
    have hvv := valIs_self v hv1
    simp [parsePermissionExpression, parseTupleToSubjectSet, mtch_on, next_on, mpa_access, arg_switch, hc, hf,
      matchL, MRes.ok, fin_on, valIs_tk, Atom.toks, tThis, tDot, tId, tLP, tRP, tCtx, tArrow, cap, lits, hvv, hv2]
    refine ⟨rfl, ?_⟩
    simp [afterAtom, onToks, P.addCheck, Atom.toks, Atom.checks]
    omega
  | traverseR b name pa v cb cname c1 c2 =>
    obtain ⟨hv1, hv2, hc⟩ := hw
    have hvv := valIs_self v hv1
    simp [parsePermissionExpression, parseTupleToSubjectSet, mtch_on, next_on, mpa_access, arg_switch, optL_comma,
      hc, hf, matchL, MRes.ok, fin_on, valIs_tk, Atom.toks, tThis, tDot, tId, tLP, tRP, tCtx, tArrow, cap, hvv, hv2]
    refine ⟨rfl, ?_⟩
    simp [afterAtom, onToks, P.addCheck, Atom.toks, Atom.checks]
    -- what is left is `List.drop` over the optional commas and the step count; the commas are split only here, on
    -- the small goal (splitting them before the `simp` above runs it on the whole state four times)
    refine ⟨?_, by omega⟩
    cases c1 <;> cases c2 <;> rfl


def finOk (fin : ItemType) : Prop := fin = .opComma ∨ fin = .parenRight

theorem finOk.beq {fin : ItemType} (h : finOk fin) (t : ItemType) (h1 : t ≠ .opComma) (h2 : t ≠ .parenRight) :
    (t == fin) = false := by
  rcases h with rfl | rfl
  · exact beq_false_of_ne h1
  · exact beq_false_of_ne h2

theorem loop_paren {n : Nat} {fin : ItemType} {depth : Nat} {root : Option Rewrite} {expect : Bool} {p : P}
    {rest : List Item} (hf : p.fatal = false) (ht : p.toks = tLP :: rest) (hd : depth - 1 ≠ 0) :
    exprLoop (n+1) fin depth root expect p =
      match (exprLoop n .parenRight (depth - 1) none true (onToks p rest 2)).1 with
      | none => (none, (exprLoop n .parenRight (depth - 1) none true (onToks p rest 2)).2)
      | some ch => exprLoop n fin depth (some (addChild root ch.toChild)) false
          (exprLoop n .parenRight (depth - 1) none true (onToks p rest 2)).2 := by
  conv => lhs; rw [eq_onToks_zero ht, exprLoop]
  simp [tick_on, next_on, onToks_fatal, peek_on, hf, hd, tLP]
  rfl

theorem loop_fin {n : Nat} {fin : ItemType} {depth : Nat} {root : Option Rewrite} {expect : Bool} {p : P}
    {t : Item} {rest : List Item} (hf : p.fatal = false) (ht : p.toks = t :: rest) (h1 : t.typ = fin)
    (h2 : fin ≠ .parenLeft) :
    exprLoop (n+1) fin depth root expect p = (root, onToks p rest 2) := by
  conv => lhs; rw [eq_onToks_zero ht, exprLoop]
  simp [tick_on, next_on, onToks_fatal, peek_on, hf, h1, h2]

def opTok : Op → Item
  | .and => tAnd
  | .or => tOr

theorem loop_op {op : Op} {n : Nat} {fin : ItemType} {depth : Nat} {r : Rewrite} {expect : Bool} {p : P}
    {rest : List Item} (hf : p.fatal = false) (ht : p.toks = opTok op :: rest) (hfin : finOk fin) :
    exprLoop (n+1) fin depth (some r) expect p = exprLoop n fin depth (some ⟨op, [r.toChild]⟩) true (onToks p rest 2) := by
  conv => lhs; rw [eq_onToks_zero ht, exprLoop]
  have ha := hfin.beq .opAnd (by decide) (by decide)
  have ho := hfin.beq .opOr (by decide) (by decide)
  cases op <;> simp [tick_on, next_on, onToks_fatal, peek_on, hf, opTok, tAnd, tOr, ha, ho]

theorem atom_head (a : Atom) : ∃ tl, a.toks = tThis :: tl := by
  cases a <;> exact ⟨_, rfl⟩

theorem afterAtom_fields (a : Atom) (rest : List Item) (p : P) :
    (afterAtom a rest p).toks = rest ∧ (afterAtom a rest p).fatal = p.fatal ∧ (afterAtom a rest p).errors = p.errors ∧
    (afterAtom a rest p).panic = p.panic ∧ (afterAtom a rest p).ns = p.ns ∧ (afterAtom a rest p).nss = p.nss :=
  ⟨rfl, rfl, rfl, rfl, rfl, rfl⟩

theorem loop_atom {n : Nat} {fin : ItemType} {depth : Nat} {root : Option Rewrite} {p : P} (a : Atom) (hw : a.wf)
    {rest : List Item} (hf : p.fatal = false) (ht : p.toks = a.toks ++ rest) (hfin : finOk fin) :
    exprLoop (n+1) fin depth root true p = exprLoop n fin depth (some (addChild root a.leaf)) true (afterAtom a rest p.tick) := by
  have hspec := parseAtom_spec a hw p.tick rest hf ht
  obtain ⟨tl, htl⟩ := atom_head a
  have hpeek : p.tick.peek = tThis := by
    show p.toks.headD brokenItem = tThis
    rw [ht, htl]; rfl
  rw [exprLoop]
  simp [hf, hpeek, hspec, tThis, hfin.beq .kwThis (by decide) (by decide)]

theorem loop_not_atom {n : Nat} {fin : ItemType} {depth : Nat} {root : Option Rewrite} {expect : Bool} {p : P} (a : Atom)
    (hw : a.wf) {rest : List Item} (hf : p.fatal = false) (ht : p.toks = tNot :: (a.toks ++ rest)) (hfin : finOk fin)
    (hd : depth - 1 ≠ 0) :
    exprLoop (n+1) fin depth root expect p =
      exprLoop n fin depth (some (addChild root (.invert a.leaf))) false (afterAtom a rest (onToks p (a.toks ++ rest) 2)) := by
  have hspec := parseAtom_spec a hw (onToks p (a.toks ++ rest) 2) rest hf rfl
  obtain ⟨tl, htl⟩ := atom_head a
  have hpeek : p.tick.peek = tNot := by
    show p.toks.headD brokenItem = tNot
    rw [ht]; rfl
  have hnext : p.tick.next.2 = onToks p (a.toks ++ rest) 2 := by
    simp [P.tick, P.next, ht, onToks, Nat.add_assoc]
  have hpeek2 : (onToks p (a.toks ++ rest) 2).peek = tThis := by
    rw [htl]; rfl
  rw [exprLoop]
  simp [hf, hpeek, hnext, hpeek2, hspec, tNot, tThis, hfin.beq .opNot (by decide) (by decide), hd]

theorem loop_not_paren {n : Nat} {fin : ItemType} {depth : Nat} {root : Option Rewrite} {expect : Bool} {p : P}
    {rest : List Item} (hf : p.fatal = false) (ht : p.toks = tNot :: tLP :: rest) (hfin : finOk fin)
    (hd : depth - 1 ≠ 0) (hd2 : depth - 1 - 1 ≠ 0) :
    exprLoop (n+1) fin depth root expect p =
      exprLoop n fin depth
        (some (addChild root (.invert (match (exprLoop n .parenRight (depth - 1 - 1) none true (onToks p rest 3)).1 with
          | none => nilRewrite
          | some ch => ch.toChild)))) false
        (exprLoop n .parenRight (depth - 1 - 1) none true (onToks p rest 3)).2 := by
  conv => lhs; rw [eq_onToks_zero ht, exprLoop]
  simp [tick_on, next_on, onToks_fatal, peek_on, hf, tNot, tLP, hfin.beq .opNot (by decide) (by decide), hd, hd2]
  rfl


def wrapT (b : Bool) (e : E Atom) : List Item := if b then tLP :: (toksOf e ++ [tRP]) else toksOf e

theorem toksOf_wrap (b : Bool) (e : E Atom) : (wrap b (render e)).flatMap itemsOf = wrapT b e := by
  cases b <;> simp [wrap, wrapT, toksOf, itemsOf, List.flatMap_append]

theorem toksOf_atom (a : Atom) : toksOf (.atom a) = a.toks := by simp [toksOf, render, itemsOf]
theorem toksOf_group (e : E Atom) : toksOf (.group e) = tLP :: (toksOf e ++ [tRP]) := by
  simp [toksOf, render, itemsOf, List.flatMap_append]
theorem toksOf_not (e : E Atom) : toksOf (.not e) = tNot :: wrapT (decide (prec e < 3)) e := by
  rw [← toksOf_wrap]; simp [toksOf, render, itemsOf]
theorem toksOf_and (l r : E Atom) :
    toksOf (.and l r) = wrapT (decide (prec l < 2)) l ++ tAnd :: wrapT (decide (prec r < 3)) r := by
  rw [← toksOf_wrap, ← toksOf_wrap]; simp [toksOf, render, itemsOf, List.flatMap_append]
theorem toksOf_or (l r : E Atom) :
    toksOf (.or l r) = wrapT (decide (prec l < 1)) l ++ tOr :: wrapT (decide (prec r < 2)) r := by
  rw [← toksOf_wrap, ← toksOf_wrap]; simp [toksOf, render, itemsOf, List.flatMap_append]

theorem wrapT_pos (b : Bool) (e : E Atom) : 1 ≤ (wrapT b e).length := by
  cases b
  · show 1 ≤ (toksOf e).length
    cases e with
    | atom a => obtain ⟨tl, htl⟩ := atom_head a; simp [toksOf_atom, htl]
    | group e => simp [toksOf_group]
    | not e => simp [toksOf_not]
    | and l r => rw [toksOf_and, List.length_append, List.length_cons]; omega
    | or l r => rw [toksOf_or, List.length_append, List.length_cons]; omega
  · simp [wrapT]

/-- Fields of the parser state the expression loop leaves alone. -/
structure ParseFrame (p p' : P) : Prop where
  fatal : p'.fatal = false
  errors : p'.errors = p.errors
  panic : p'.panic = p.panic
  ns : p'.ns = p.ns
  nss : p'.nss = p.nss

theorem ParseFrame.trans {p q r : P} (h1 : ParseFrame p q) (h2 : ParseFrame q r) : ParseFrame p r :=
  ⟨h2.fatal, h2.errors.trans h1.errors, h2.panic.trans h1.panic, h2.ns.trans h1.ns, h2.nss.trans h1.nss⟩

theorem ParseFrame.onToks (p : P) (hf : p.fatal = false) (rest : List Item) (k : Nat) :
    ParseFrame p (onToks p rest k) :=
  ⟨hf, rfl, rfl, rfl, rfl⟩

theorem ParseFrame.addCheck {p q : P} (h : ParseFrame p q) (c : TypeCheck) : ParseFrame p (q.addCheck c) :=
  ⟨h.fatal, h.errors, h.panic, h.ns, h.nss⟩

theorem denoteAny_append (v : Child → Bool) : ∀ (a b : List Child), denoteAny v (a ++ b) = (denoteAny v a || denoteAny v b)
  | [], b => by simp [denoteAny]
  | c :: a, b => by simp [denoteAny, denoteAny_append v a b, Bool.or_assoc]

theorem denoteAll_append (v : Child → Bool) : ∀ (a b : List Child), denoteAll v (a ++ b) = (denoteAll v a && denoteAll v b)
  | [], b => by simp [denoteAll]
  | c :: a, b => by simp [denoteAll, denoteAll_append v a b, Bool.and_assoc]

theorem denote_toChild (v : Child → Bool) (r : Rewrite) : denote v r.toChild = denoteRewrite v r := rfl

/-- Where the left-to-right reader stands when the loop holds `root`. -/
def stOf (v : Child → Bool) : Option Rewrite → St
  | none => .start
  | some r => .pend (r.op == .and) (denoteRewrite v r)

theorem op_or_beq_and : (Op.or == Op.and) = false := rfl
theorem op_and_beq_and : (Op.and == Op.and) = true := rfl

theorem denote_addChild (v : Child → Bool) (root : Option Rewrite) (x : Child) :
    denoteRewrite v (addChild root x) = ((stOf v root).operand (denote v x)).value := by
  cases root with
  | none =>
    cases x with
    | rewrite op cs => cases op <;> simp [addChild, stOf, St.operand, St.value, denoteRewrite, denote]
    | _ => simp [addChild, stOf, St.operand, St.value, denoteRewrite, denote, denoteAny]
  | some r =>
    obtain ⟨op, cs⟩ := r
    cases op <;>
      simp [addChild, stOf, St.operand, St.value, denoteRewrite, denote, denoteAny_append, denoteAll_append, denoteAny,
        denoteAll, op_or_beq_and]

theorem stOf_op (v : Child → Bool) (op : Op) (r : Rewrite) :
    stOf v (some ⟨op, [r.toChild]⟩) = .pend (op == .and) (denoteRewrite v r) := by
  cases op <;> simp [stOf, denoteRewrite, denote, denoteAny, denoteAll, Rewrite.toChild]

/-- Started with fuel `n` on `p`, the loop has come to fuel `m` and state `p'`, holding the root `r`. -/
structure ReadsTo (n : Nat) (fin : ItemType) (depth : Nat) (root : Option Rewrite) (expect : Bool) (p : P)
    (tail : List Item) (sem : (Child → Bool) → Bool) (r : Rewrite) (ex : Bool) (p' : P) (m : Nat) : Prop where
  means : ∀ v, denoteRewrite v r = sem v
  /-- every `loop_*` step costs one unit of fuel and reads at least one item -/
  fuel : n + tail.length ≤ m + p.toks.length
  toks : p'.toks = tail
  frame : ParseFrame p p'
  loop : exprLoop n fin depth root expect p = exprLoop m fin depth (some r) ex p'

/-- With fuel `n` the loop reads the items of `p` up to `tail` and holds a root that means `sem` then. -/
def Reads (n : Nat) (fin : ItemType) (depth : Nat) (root : Option Rewrite) (expect : Bool) (p : P) (tail : List Item)
    (sem : (Child → Bool) → Bool) : Prop :=
  ∃ (r : Rewrite) (ex : Bool) (p' : P) (m : Nat), ReadsTo n fin depth root expect p tail sem r ex p' m

/-- What the loop does on the tokens of `render e` followed by `tail`: it reads them as the left-to-right reader
    does, from where `root` stands (`stOf`). Fuel for one iteration per token suffices (nested levels included: a
    level is entered with one unit less and its `(` and `)` pay for that). -/
def LoopReads (e : E Atom) : Prop :=
  ∀ (n : Nat) (fin : ItemType) (depth : Nat) (root : Option Rewrite) (p : P) (tail : List Item),
    finOk fin → fits depth e → (toksOf e).length ≤ n + 1 → p.fatal = false → p.toks = toksOf e ++ tail →
    Reads (n+1) fin depth root true p tail fun v => (l2r (fun a => v a.leaf) (stOf v root) e).value

theorem denote_leaf (v : Child → Bool) (a : Atom) : denote v a.leaf = v a.leaf := by
  cases a <;> rfl

/-- A level up to its final token `t` (`)` or `,`): the call on `e t` returns a root that means `e`. -/
theorem level_spec (e : E Atom) (hs : LoopReads e) {fin : ItemType} (hfin : finOk fin) {t : Item} (htyp : t.typ = fin)
    (n depth : Nat) (q : P) (tail : List Item) (hfit : fits depth e)
    (hn : (toksOf e).length + 1 ≤ n) (hf : q.fatal = false) (ht : q.toks = toksOf e ++ t :: tail) :
    ∃ (r : Rewrite) (q' : P), (∀ v, denoteRewrite v r = (l2r (fun a => v a.leaf) .start e).value) ∧ q'.toks = tail ∧
      ParseFrame q q' ∧ exprLoop n fin depth none true q = (some r, q') := by
  obtain ⟨n, rfl⟩ : ∃ n', n = n' + 1 := ⟨n - 1, by omega⟩
  obtain ⟨r, ex, q1, m, h⟩ := hs n fin depth none q (t :: tail) hfin hfit (by omega) hf ht
  have hl : q.toks.length = (toksOf e).length + (tail.length + 1) := by rw [ht]; simp
  obtain ⟨m, rfl⟩ : ∃ m', m = m' + 1 := ⟨m - 1, by have := h.fuel; simp only [List.length_cons] at this; omega⟩
  exact ⟨r, onToks q1 tail 2, h.means, rfl, h.frame.trans (ParseFrame.onToks q1 h.frame.fatal _ 2),
    h.loop.trans (loop_fin h.frame.fatal h.toks htyp (by rcases hfin with rfl | rfl <;> decide))⟩

theorem paren_step (e : E Atom) (hs : LoopReads e) (n : Nat) (fin : ItemType) (depth : Nat) (root : Option Rewrite)
    (expect : Bool) (p : P) (tail : List Item) (hd : depth - 1 ≠ 0) (hfit : fits (depth - 1) e)
    (hn : (toksOf e).length + 1 ≤ n) (hf : p.fatal = false) (ht : p.toks = tLP :: (toksOf e ++ tRP :: tail)) :
    Reads (n+1) fin depth root expect p tail
      fun v => ((stOf v root).operand (l2r (fun a => v a.leaf) .start e).value).value := by
  obtain ⟨r, q, hr, h1, h2, h3⟩ := level_spec e hs (.inr rfl) rfl n (depth - 1) (onToks p (toksOf e ++ tRP :: tail) 2) tail hfit hn hf rfl
  exact ⟨addChild root r.toChild, false, q, n, {
    means := fun v => by rw [denote_addChild, denote_toChild, hr]
    fuel := by rw [ht]; simp; omega
    toks := h1
    frame := (ParseFrame.onToks p hf _ 2).trans h2
    loop := by rw [loop_paren hf ht hd, h3] }⟩

/-- An operand of a binary operator: in parentheses (`c`) or bare. -/
theorem operand_step (e : E Atom) (hs : LoopReads e) (c : Prop) [Decidable c] (n : Nat) (fin : ItemType) (depth : Nat)
    (root : Option Rewrite) (p : P) (tail : List Item) (hfin : finOk fin)
    (hfit : if c then depth - 1 ≠ 0 ∧ fits (depth - 1) e else fits depth e)
    (hn : (wrapT (decide c) e).length ≤ n + 1) (hf : p.fatal = false) (ht : p.toks = wrapT (decide c) e ++ tail) :
    Reads (n+1) fin depth root true p tail fun v => (l2rOperand (fun a => v a.leaf) c (stOf v root) e).value := by
  by_cases hc : c
  · simp only [l2rOperand, hc, if_true, decide_true, wrapT, List.length_cons, List.length_append,
      List.length_nil] at hfit ht hn ⊢
    exact paren_step e hs n fin depth root true p tail hfit.1 hfit.2 (by omega) hf (by rw [ht]; simp)
  · simp only [l2rOperand, hc, if_false, decide_false, wrapT] at hfit ht hn ⊢
    exact hs n fin depth root p tail hfin hfit hn hf ht

/-- `l op r` at the front, each operand in parentheses (`cl`, `cr`) or bare. -/
theorem binop_step (op : Op) (l r : E Atom) (hl : LoopReads l) (hr : LoopReads r) (cl cr : Prop)
    [Decidable cl] [Decidable cr]
    (n : Nat) (fin : ItemType) (depth : Nat) (root : Option Rewrite) (p : P) (tail : List Item) (hfin : finOk fin)
    (hfl : if cl then depth - 1 ≠ 0 ∧ fits (depth - 1) l else fits depth l)
    (hfr : if cr then depth - 1 ≠ 0 ∧ fits (depth - 1) r else fits depth r)
    (hn : (wrapT (decide cl) l ++ opTok op :: wrapT (decide cr) r).length ≤ n + 1) (hf : p.fatal = false)
    (ht : p.toks = (wrapT (decide cl) l ++ opTok op :: wrapT (decide cr) r) ++ tail) :
    Reads (n+1) fin depth root true p tail fun v =>
      (l2rOperand (fun a => v a.leaf) cr
        (.pend (op == .and) (l2rOperand (fun a => v a.leaf) cl (stOf v root) l).value) r).value := by
  simp only [List.length_append, List.length_cons] at hn
  obtain ⟨r1, ex1, p1, m1, h1⟩ := operand_step l hl cl n fin depth root p
    (opTok op :: (wrapT (decide cr) r ++ tail)) hfin hfl (by omega) hf (by rw [ht]; simp)
  have hlen : p.toks.length = (wrapT (decide cl) l).length + ((wrapT (decide cr) r).length + tail.length + 1) := by
    rw [ht]; simp
  have hm1 := h1.fuel
  simp only [List.length_cons, List.length_append] at hm1
  have hpos := wrapT_pos (decide cr) r
  obtain ⟨m1, rfl⟩ : ∃ m', m1 = m' + 1 + 1 := ⟨m1 - 2, by omega⟩
  obtain ⟨r2, ex2, p2, m2, h2⟩ := operand_step r hr cr m1 fin depth (some ⟨op, [r1.toChild]⟩)
    (onToks p1 (wrapT (decide cr) r ++ tail) 2) tail hfin hfr (by omega) h1.frame.fatal rfl
  have hm2 : m1 + 1 + tail.length ≤ m2 + ((wrapT (decide cr) r).length + tail.length) := by
    simpa [onToks] using h2.fuel
  exact ⟨r2, ex2, p2, m2, {
    means := fun v => by simp only [h2.means, stOf_op, h1.means]
    fuel := by omega
    toks := h2.toks
    frame := h1.frame.trans ((ParseFrame.onToks p1 h1.frame.fatal _ 2).trans h2.frame)
    loop := by rw [h1.loop, loop_op h1.frame.fatal h1.toks hfin, h2.loop] }⟩

/-- `!` before an operand that is rendered as `( inner )`. -/
theorem not_step (e inner : E Atom) (hs : LoopReads inner)
    (htoks : toksOf (.not e) = tNot :: tLP :: (toksOf inner ++ [tRP]))
    (hsem : ∀ f : Atom → Bool, (l2r f .start e).value = (l2r f .start inner).value)
    (hfits : ∀ d, fits d (.not e) → d - 1 ≠ 0 ∧ d - 1 - 1 ≠ 0 ∧ fits (d - 1 - 1) inner) :
    LoopReads (.not e) := by
  intro n fin depth root p tail hfin hfit hn hf ht
  obtain ⟨hd, hd2, hfi⟩ := hfits depth hfit
  rw [htoks] at ht hn
  simp only [List.length_cons, List.length_append, List.length_nil] at hn
  obtain ⟨r, q, hr, h1, h2, h3⟩ := level_spec inner hs (.inr rfl) rfl n (depth - 1 - 1)
    (onToks p (toksOf inner ++ tRP :: tail) 3) tail hfi (by omega) hf rfl
  have ht' : p.toks = tNot :: tLP :: (toksOf inner ++ tRP :: tail) := by rw [ht]; simp
  exact ⟨addChild root (.invert r.toChild), false, q, n, {
    means := fun v => by
      rw [denote_addChild]
      simp only [denote, denote_toChild, hr, l2r, hsem]
    fuel := by rw [ht']; simp; omega
    toks := h1
    frame := (ParseFrame.onToks p hf _ 3).trans h2
    loop := by rw [loop_not_paren hf ht' hfin hd hd2, h3] }⟩

theorem spec_all : ∀ e : E Atom, LoopReads e
  | .atom a => by
    intro n fin depth root p tail hfin hfit _ hf ht
    rw [toksOf_atom] at ht
    obtain ⟨tl, htl⟩ := atom_head a
    exact ⟨_, true, afterAtom a tail p.tick, n, {
      means := fun v => by rw [denote_addChild, denote_leaf]; rfl
      fuel := by rw [ht, htl]; simp; omega
      toks := rfl
      frame := ⟨hf, rfl, rfl, rfl, rfl⟩
      loop := loop_atom a hfit hf ht hfin }⟩
  | .group e => by
    intro n fin depth root p tail hfin hfit hn hf ht
    rw [toksOf_group] at ht hn
    exact paren_step e (spec_all e) n fin depth root true p tail hfit.1 hfit.2 (by simp at hn; omega) hf
      (by rw [ht]; simp)
  | .not (.atom a) => by
    intro n fin depth root p tail hfin hfit _ hf ht
    have ht' : p.toks = tNot :: (a.toks ++ tail) := by
      rw [ht, toksOf_not]; simp [wrapT, prec, toksOf_atom]
    exact ⟨_, false, afterAtom a tail (onToks p (a.toks ++ tail) 2), n, {
      means := fun v => by rw [denote_addChild]; simp only [denote, denote_leaf]; rfl
      fuel := by rw [ht']; simp; omega
      toks := rfl
      frame := ⟨hf, rfl, rfl, rfl, rfl⟩
      loop := loop_not_atom a hfit.2 hf ht' hfin hfit.1 }⟩
  | .not (.group x) =>
    not_step _ x (spec_all x) (by simp [toksOf_not, wrapT, prec, toksOf_group]) (fun _ => rfl) (fun _ h => h)
  | .not (.not y) => fun n fin depth root p tail hfin hfit => absurd hfit (by simp [fits])
  | .not (.and l r) =>
    not_step _ _ (spec_all (.and l r)) (by simp [toksOf_not, wrapT, prec]) (fun _ => rfl) (fun _ h => h)
  | .not (.or l r) =>
    not_step _ _ (spec_all (.or l r)) (by simp [toksOf_not, wrapT, prec]) (fun _ => rfl) (fun _ h => h)
  | .and l r => by
    intro n fin depth root p tail hfin hfit hn hf ht
    rw [toksOf_and] at ht hn
    exact binop_step .and l r (spec_all l) (spec_all r) (prec l < 2) (prec r < 3) n fin depth root p tail hfin
      hfit.1 hfit.2 hn hf ht
  | .or l r => by
    intro n fin depth root p tail hfin hfit hn hf ht
    rw [toksOf_or] at ht hn
    exact binop_step .or l r (spec_all l) (spec_all r) (prec l < 1) (prec r < 2) n fin depth root p tail hfin
      hfit.1 hfit.2 hn hf ht

theorem denoteAny_simplifyChildren (v : Child → Bool) (cs : List Child) :
    denoteAny v (simplifyChildren .or cs) = denoteAny v cs :=
  simplifyChildren_fold (denoteAny_append v) (fun _ => Bool.or_false _) (fun _ => by rw [denote]) cs

theorem denoteAny_simplifyChild (v : Child → Bool) : ∀ c : Child, denoteAny v (simplifyChild .or c) = denote v c :=
  simplifyChild_fold (denoteAny_append v) (fun _ => Bool.or_false _) fun _ => by rw [denote]

theorem denoteAll_simplifyChildren (v : Child → Bool) (cs : List Child) :
    denoteAll v (simplifyChildren .and cs) = denoteAll v cs :=
  simplifyChildren_fold (denoteAll_append v) (fun _ => Bool.and_true _) (fun _ => by rw [denote]) cs

theorem denoteAll_simplifyChild (v : Child → Bool) : ∀ c : Child, denoteAll v (simplifyChild .and c) = denote v c :=
  simplifyChild_fold (denoteAll_append v) (fun _ => Bool.and_true _) fun _ => by rw [denote]

theorem denote_simplify (v : Child → Bool) (r : Rewrite) :
    denoteRewrite v ⟨r.op, simplifyChildren r.op r.children⟩ = denoteRewrite v r := by
  obtain ⟨op, cs⟩ := r
  cases op
  · simp [denoteRewrite, denote, denoteAny_simplifyChildren]
  · simp [denoteRewrite, denote, denoteAll_simplifyChildren]

/-- Fuel above the number of remaining items + 1 suffices; `parseItems` passes that number + 2. -/
theorem parsePermissionExpressions_spec {e : E Atom} {depth fuel : Nat} {p : P} {rest : List Item}
    (hfit : fits depth e) (hd : depth ≠ 0) (hf : p.fatal = false) (ht : p.toks = toksOf e ++ tComma :: rest)
    (hfuel : p.toks.length + 1 < fuel) :
    ∃ (rw : Rewrite) (p' : P), parsePermissionExpressions fuel .opComma depth p = (some rw, p') ∧
      p'.toks = rest ∧ ParseFrame p p' ∧ ∀ v, denoteRewrite v rw = evalL2R (fun a => v a.leaf) e := by
  have hl : p.toks.length = (toksOf e).length + 1 + rest.length := by rw [ht]; simp; omega
  obtain ⟨rw, p', hr, h1, h2, h3⟩ := level_spec e (spec_all e) (.inl rfl) rfl fuel depth p rest hfit (by omega) hf ht
  exact ⟨rw, p', by rw [parsePermissionExpressions, if_neg (by simpa using hd), h3], h1, h2, hr⟩

end Keto.Opl
