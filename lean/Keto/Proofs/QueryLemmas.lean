/-
  What the storage queries, the paging, the lookup and the depth clamp of the engine model
  (Keto/Model/Engine.lean, Data.lean) compute: one characterisation each, shared by the proofs
  about `build` and about `expand`.
-/
import Keto.Model.Engine

namespace Keto

theorem mem_subjectSetsOf {T : List Tuple} {ns : String} {obj : Nat} {rel : String} {n : String} {o : Nat}
    {r : String} : (n, o, r) ∈ subjectSetsOf T ns obj rel ↔ (⟨ns, obj, rel, .set n o r⟩ : Tuple) ∈ T := by
  unfold subjectSetsOf
  rw [List.mem_filterMap]
  constructor
  · rintro ⟨⟨ns', obj', rel', sub⟩, ht, he⟩
    split at he
    · next hcond =>
      simp only [Bool.and_eq_true, beq_iff_eq] at hcond
      obtain ⟨⟨h1, h2⟩, h3⟩ := hcond
      subst h1 h2 h3
      cases sub <;> simp at he
      obtain ⟨rfl, rfl, rfl⟩ := he
      exact ht
    · cases he
  · exact fun h => ⟨_, h, by simp⟩

theorem mem_rowsOf {T : List Tuple} {ns : String} {obj : Nat} {rel : String} {t : Tuple} :
    t ∈ rowsOf T ns obj rel ↔ t ∈ T ∧ t.ns = ns ∧ t.obj = obj ∧ t.rel = rel := by
  simp [rowsOf, and_assoc]

theorem mem_of_mem_rowsOf {T : List Tuple} {n : String} {o : Nat} {r : String} {t : Tuple}
    (h : t ∈ rowsOf T n o r) : (⟨n, o, r, t.sub⟩ : Tuple) ∈ T := by
  obtain ⟨hT, h1, h2, h3⟩ := mem_rowsOf.mp h
  subst h1 h2 h3
  exact hT

theorem mem_rowsOf_self {T : List Tuple} {n : String} {o : Nat} {r : String} {s : Subject}
    (h : (⟨n, o, r, s⟩ : Tuple) ∈ T) : (⟨n, o, r, s⟩ : Tuple) ∈ rowsOf T n o r :=
  mem_rowsOf.mpr ⟨h, rfl, rfl, rfl⟩

theorem mem_computedRels {r : String} : ∀ {cs : List Child}, r ∈ computedRels cs ↔ Child.computed r ∈ cs
  | [] => by simp [computedRels]
  | c :: cs => by cases c <;> simp [computedRels, mem_computedRels (cs := cs)]

theorem pagesOf_flatten (ps : Nat) : ∀ (fuel : Nat) (rows : List Tuple), (pagesOf ps fuel rows).flatten = rows
  | 0, rows => by simp [pagesOf]
  | fuel+1, rows => by
    simp only [pagesOf]
    split
    · simp
    · simp [pagesOf_flatten ps fuel]

theorem mem_pagesOf {ps fuel : Nat} {rows : List Tuple} {t : Tuple} :
    (∃ p, p ∈ pagesOf ps fuel rows ∧ t ∈ p) ↔ t ∈ rows := by
  rw [← List.mem_flatten, pagesOf_flatten]

theorem mem_page_rowsOf {T : List Tuple} {ns : String} {obj : Nat} {rel : String} {ps fuel : Nat} {n : String}
    {o : Nat} {r : String} :
    (∃ p, p ∈ pagesOf ps fuel (rowsOf T ns obj rel) ∧ ∃ x, x ∈ p ∧ x.sub = .set n o r) ↔
      (⟨ns, obj, rel, .set n o r⟩ : Tuple) ∈ T := by
  constructor
  · rintro ⟨p, hp, x, hx, hs⟩
    exact hs ▸ mem_of_mem_rowsOf (mem_pagesOf.1 ⟨p, hp, hx⟩)
  · intro h
    obtain ⟨p, hp, hx⟩ := mem_pagesOf.2 (mem_rowsOf_self h)
    exact ⟨p, hp, _, hx, rfl⟩

theorem pagesOf_length (ps : Nat) : ∀ (fuel : Nat) (rows : List Tuple),
    (pagesOf ps fuel rows).length ≤ rows.length / ps + 1
  | 0, rows => Nat.le_add_left ..
  | fuel+1, rows => by
    simp only [pagesOf]
    split
    · exact Nat.le_add_left ..
    · next h =>
      have ih := pagesOf_length ps fuel (rows.drop ps)
      have e := Nat.div_eq_sub_div (by omega : 0 < ps) (by omega : ps ≤ rows.length)
      simp only [List.length_cons, List.length_drop] at ih ⊢
      omega

theorem astRelationFor_empty (c : Cfg) (ns : String) : astRelationFor c ns "" = .none :=
  if_pos rfl

theorem astRelationFor_eq_rel {c : Cfg} {ns rel : String} {R : Relation} :
    astRelationFor c ns rel = .rel R ↔ rel ≠ "" ∧ ∃ N, findNs c ns = some N ∧ findRel N rel = some R := by
  unfold astRelationFor
  by_cases h0 : rel = ""
  · simp [h0]
  · cases hN : findNs c ns with
    | none => simp [h0]
    | some N =>
      cases hR : findRel N rel with
      | none =>
        simp only [beq_iff_eq, h0, if_false, hR]
        split <;> simp [hR]
      | some R' =>
        -- a namespace in which a relation is found has relations
        have hne : N.relations.isEmpty = false := by
          unfold findRel at hR
          cases hrel : N.relations with
          | nil => rw [hrel] at hR; cases hR
          | cons _ _ => rfl
        simp [h0, hne, hR]

/-- The rewrite `checkIsAllowed` takes from a lookup: the one of the relation found, if any. -/
theorem lookup_rewrite_eq_some {lk : Lookup} {rw : Rewrite} :
    ((match lk with | .rel r => some r | _ => none : Option Relation).bind (·.rewrite)) = some rw ↔
      ∃ R, lk = .rel R ∧ R.rewrite = some rw := by
  cases lk <;> simp

theorem astRelationFor_rel {c : Cfg} {ns rel : String} {R : Relation} (h : astRelationFor c ns rel = .rel R) :
    ∃ N, N ∈ c ∧ N.name = ns ∧ R ∈ N.relations ∧ R.name = rel := by
  obtain ⟨_, N, hN, hR⟩ := astRelationFor_eq_rel.1 h
  have h1 := List.find?_some hN
  have h2 := List.find?_some hR
  simp only [beq_iff_eq] at h1 h2
  exact ⟨N, List.mem_of_find?_eq_some hN, h1, List.mem_of_find?_eq_some hR, h2⟩

theorem le_foldr_max {α : Type} (f : α → Nat) :
    ∀ {l : List α} {a : α}, a ∈ l → f a ≤ (l.map f).foldr max 0
  | [], _, h => by cases h
  | b :: l, a, h => by
    cases h with
    | head => exact Nat.le_max_left ..
    | tail _ h' => exact Nat.le_trans (le_foldr_max f h') (Nat.le_max_right ..)

theorem le_cfg_max (f : Relation → Nat) {c : Cfg} {ns rel : String} {R : Relation}
    (hR : astRelationFor c ns rel = .rel R) :
    f R ≤ (c.map fun N => (N.relations.map f).foldr max 0).foldr max 0 := by
  obtain ⟨N, hN, _, hRN, _⟩ := astRelationFor_rel hR
  exact Nat.le_trans (le_foldr_max f hRN) (le_foldr_max (fun N => (N.relations.map f).foldr max 0) hN)

theorem effDepth_le (r g : Int) : effDepth r g ≤ g := by
  unfold effDepth
  split <;> omega

theorem effDepth_pos {r g : Int} (hg : 1 ≤ g) : 1 ≤ effDepth r g := by
  unfold effDepth
  split <;> omega

theorem effDepth_pred {d g : Int} (h1 : 1 < d) (hg : d ≤ g) : effDepth (d - 1) g = d - 1 := by
  unfold effDepth
  split <;> omega

theorem effDepth_zero (g : Int) : effDepth 0 g = g :=
  if_pos (.inl (Int.le_refl 0))

theorem effDepth_idem (r g : Int) : effDepth (effDepth r g) g = effDepth r g := by
  unfold effDepth
  by_cases hc : r ≤ 0 ∨ g < r
  · simp only [if_pos hc, ite_self]
  · simp only [if_neg hc]

theorem check_clamp (E : Env) (g : Int) (fuel : Nat) (q : Tuple) (r : Int) :
    check E g fuel q r = check E (effDepth r g) fuel q 0 := by
  unfold check
  rw [effDepth_zero]

theorem check_clamp_explicit (E : Env) (g : Int) (fuel : Nat) (q : Tuple) (r : Int) :
    check E g fuel q r = check E g fuel q (effDepth r g) := by
  unfold check
  rw [effDepth_idem]

end Keto
