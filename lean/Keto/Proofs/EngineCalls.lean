/-
  The number of storage operations of the engine model (`World.calls`) is bounded by `callsBound`.

  `build` does part of its work while the check is constructed and part when the returned thunk is
  run, so the invariant (`BCost`) splits a budget in two.  The budget of a call (`Call.cost`) is the weighted size of the rewrite it still has to walk, with
  the bound for the next lower depth as the weight of a leaf.
-/
import Keto.Model.Engine
import Keto.Spec.Calls
import Keto.Proofs.EngineTermination

namespace Keto

theorem call_calls (E : Env) (w : World) : (w.call E).2.calls = w.calls + 1 := rfl

theorem initVisited_calls (ctx : Ctx) (w : World) : (initVisited ctx w).2.calls = w.calls := by
  fun_cases initVisited ctx w <;> rfl

theorem checkAndAdd_calls (c : Ctx) (k : VKey) (w : World) : (checkAndAdd c k w).2.calls = w.calls := by
  fun_cases checkAndAdd c k w <;> rfl

/-- Every run of the thunk adds at most `k` storage operations. -/
def TCost (th : Thunk) (k : Nat) : Prop := ∀ c w, (th c w).2.calls ≤ w.calls + k

/-- The thunks of the list, each run at most once, add at most `m` storage operations together. -/
def LCost : List Thunk → Nat → Prop
  | [], _ => True
  | th :: ths, m => ∃ k m', k + m' ≤ m ∧ TCost th k ∧ LCost ths m'

/-- Construction and one run of the thunk add at most `k` storage operations together. -/
def BCost (bw : Thunk × World) (w : World) (k : Nat) : Prop :=
  ∃ cb ct, cb + ct ≤ k ∧ bw.2.calls ≤ w.calls + cb ∧ TCost bw.1 ct

theorem TCost.mono {th : Thunk} {k k' : Nat} (h : TCost th k) (hk : k ≤ k') : TCost th k' := by
  intro c w
  have := h c w
  omega

theorem TCost.const (r : Res) (k : Nat) : TCost (constT r) k :=
  fun _ w => Nat.le_add_right w.calls k

theorem TCost.withFresh {th : Thunk} {k : Nat} (h : TCost th k) : TCost (withFresh th) k :=
  fun _ w => h (fresh w).1 (fresh w).2

theorem LCost.mono : ∀ {ths : List Thunk} {m m' : Nat}, LCost ths m → m ≤ m' → LCost ths m'
  | [], _, _, _, _ => trivial
  | _ :: _, _, _, ⟨k, m1, hk, ht, hl⟩, hm => ⟨k, m1, by omega, ht, hl⟩

theorem LCost.append : ∀ {ths ths' : List Thunk} {m m' : Nat}, LCost ths m → LCost ths' m' →
    LCost (ths ++ ths') (m + m')
  | [], _, _, _, _, h' => h'.mono (by omega)
  | _ :: _, _, _, _, ⟨k, m1, hk, ht, hl⟩, h' => ⟨k, m1 + _, by omega, ht, hl.append h'⟩

theorem LCost.mapWithFresh : ∀ {ths : List Thunk} {m : Nat}, LCost ths m → LCost (ths.map withFresh) m
  | [], _, _ => trivial
  | _ :: _, _, ⟨k, m1, hk, ht, hl⟩ => ⟨k, m1, hk, ht.withFresh, hl.mapWithFresh⟩

theorem BCost.mono {bw : Thunk × World} {w : World} {k k' : Nat} (h : BCost bw w k) (hk : k ≤ k') :
    BCost bw w k' := by
  obtain ⟨cb, ct, h1, h2, h3⟩ := h
  exact ⟨cb, ct, by omega, h2, h3⟩

theorem BCost.const {r : Res} {w w2 : World} (h : w2.calls = w.calls) {k : Nat} : BCost (constT r, w2) w k :=
  ⟨0, 0, by omega, by show w2.calls ≤ w.calls + 0; omega, TCost.const r 0⟩

theorem BCost.runB {bw : Thunk × World} {w : World} {k : Nat} (h : BCost bw w k) (c : Ctx) :
    (runB bw c).2.calls ≤ w.calls + k := by
  obtain ⟨cb, ct, h1, h2, h3⟩ := h
  have := h3 c bw.2
  show (bw.1 c bw.2).2.calls ≤ _
  omega

theorem gRun_calls {α : Type} {F : α → Thunk} {a : Nat} (h : ∀ x, TCost (F x) a) :
    ∀ (xs : List α) g c w, (gRun (xs.map F) g c w).2.calls ≤ w.calls + xs.length * a
  | [], _, _, w => Nat.le_add_right ..
  | x :: xs, g, c, w => by
    have h1 := h x c w
    have h2 := gRun_calls h xs (gAdd g (F x c w).1) c (F x c w).2
    simp only [List.map_cons, gRun, List.length_cons, Nat.succ_mul]
    omega

theorem orRun_calls : ∀ {ths : List Thunk} {m : Nat}, LCost ths m → TCost (orRun ths) m
  | [], _, _, _, w => Nat.le_add_right w.calls _
  | th :: ths, _, ⟨k, m1, hk, ht, hl⟩, c, w => by
    simp only [orRun]
    have h1 := ht c w
    split
    · omega
    · have h2 := orRun_calls hl c (th c w).2
      omega

theorem andLoop_calls : ∀ {ths : List Thunk} {m : Nat}, LCost ths m → TCost (andLoop ths) m
  | [], _, _, _, w => Nat.le_add_right w.calls _
  | th :: ths, _, ⟨k, m1, hk, ht, hl⟩, c, w => by
    simp only [andLoop]
    have h1 := ht c w
    split
    · show (th c w).2.calls ≤ _
      omega
    · have h2 := andLoop_calls hl c (th c w).2
      omega

theorem opRun_calls (op : Op) {ths : List Thunk} {m : Nat} (h : LCost ths m) : TCost (opRun op ths) m := by
  cases op with
  | or => exact orRun_calls h
  | and =>
    intro c w
    show (andRun ths c w).2.calls ≤ _
    unfold andRun
    split
    · exact Nat.le_add_right w.calls _
    · exact andLoop_calls h c w

theorem rowRun_calls {rec : VKey → Ctx → World → Res × World} {a : Nat} (hrec : ∀ s, TCost (rec s) a)
    (t : Tuple) : TCost (rowRun rec t) a := by
  fun_cases rowRun rec t
  · exact hrec _
  · exact fun _ _ => Nat.le_add_right ..

theorem expandStep_calls {rec : Tuple → Ctx → World → Res × World} {a : Nat} (hrec : ∀ t, TCost (rec t) a)
    (sub : Subject) (s : VKey) : TCost (expandStep rec sub s) a := by
  intro c w
  have hv := checkAndAdd_calls c s w
  fun_cases expandStep rec sub s c w
  · show (checkAndAdd c s w).2.calls ≤ _
    omega
  · have := hrec ⟨s.1, s.2.1, s.2.2, sub⟩ c (checkAndAdd c s w).2
    omega

theorem pageRun_calls (E : Env) {rec : VKey → Ctx → World → Res × World} {a : Nat}
    (hrec : ∀ s, TCost (rec s) a) (p : List Tuple) : TCost (pageRun E rec p) (1 + p.length * a) := by
  intro c w
  have hc := call_calls E w
  fun_cases pageRun E rec p c w
  · show (w.call E).2.calls ≤ _
    omega
  · show (ttuRows rec p none c (w.call E).2).2.calls ≤ _
    rw [ttuRows_eq]
    have := gRun_calls (rowRun_calls hrec) p none c (w.call E).2
    omega

theorem scRun_calls (E : Env) (t : Tuple) (comps : List String) {rec : String → Ctx → World → Res × World}
    {a : Nat} (hrec : ∀ r, TCost (rec r) a) : TCost (scRun E t comps rec) (1 + comps.length * a) := by
  intro c w
  have hc := call_calls E w
  fun_cases scRun E t comps rec c w
  · show (w.call E).2.calls ≤ _
    omega
  · show (w.call E).2.calls ≤ _
    omega
  · show (relLoop rec comps none c (w.call E).2).2.calls ≤ _
    rw [relLoop_eq]
    have := gRun_calls hrec comps none c (w.call E).2
    omega

/-- One storage operation per page and the budget `a` per row. -/
theorem pages_lcost (E : Env) {rec : VKey → Ctx → World → Res × World} {a : Nat}
    (hrec : ∀ s, TCost (rec s) a) :
    ∀ ps : List (List Tuple), LCost (ps.map (pageRun E rec)) (ps.length + ps.flatten.length * a)
  | [] => trivial
  | p :: ps =>
    ⟨1 + p.length * a, ps.length + ps.flatten.length * a,
      by simp only [List.length_cons, List.flatten_cons, List.length_append, Nat.add_mul]; omega,
      pageRun_calls E hrec p, pages_lcost E hrec ps⟩

theorem pagesBound_mono (ps : Nat) {n n' : Nat} (h : n ≤ n') : pagesBound ps n ≤ pagesBound ps n' :=
  Nat.add_le_add_right (Nat.div_le_div_right h) 1

theorem buildChildren_calls (f : Child → Ctx → World → Thunk × World) (isAnd : Bool) (K : Child → Nat) :
    ∀ (cs : List Child), (∀ ch, ch ∈ cs → ∀ c w, BCost (f ch c w) w (K ch)) →
      ∀ c w, ∃ cb ct, cb + ct ≤ (cs.map K).sum ∧
        (buildChildren f isAnd cs c w).2.calls ≤ w.calls + cb ∧ LCost (buildChildren f isAnd cs c w).1 ct
  | [], _, _, w => ⟨0, 0, by simp, by simp [buildChildren], trivial⟩
  | ch :: cs, h, c, w => by
    simp only [buildChildren, List.map_cons, List.sum_cons]
    generalize hcw : (if isAnd = true then fresh w else (c, w)) = cw
    have hcalls : cw.2.calls = w.calls := by
      rw [← hcw]
      split
      · rfl
      · rfl
    obtain ⟨cb1, ct1, h1, h2, h3⟩ := h ch (List.mem_cons_self ..) cw.1 cw.2
    obtain ⟨cb2, ct2, h4, h5, h6⟩ := buildChildren_calls f isAnd K cs
      (fun ch' hc' => h ch' (List.mem_cons_of_mem _ hc')) c (f ch cw.1 cw.2).2
    exact ⟨cb1 + cb2, ct1 + ct2, by omega, by omega, ct1, ct2, Nat.le_refl _, h3, h6⟩

mutual
theorem Child.weight_lin (wc wt wr : Nat) : ∀ ch, Child.weight wc wt wr ch =
    Child.weight 1 0 0 ch * wc + Child.weight 0 1 0 ch * wt + Child.weight 0 0 1 ch * wr
  | .computed _ => by simp [Child.weight]
  | .ttu _ _ => by simp [Child.weight]
  | .rewrite _ cs => by
    have := Child.weightList_lin wc wt wr cs
    simp only [Child.weight, Nat.add_mul, Nat.zero_add, Nat.one_mul]
    omega
  | .invert c => Child.weight_lin wc wt wr c
theorem Child.weightList_lin (wc wt wr : Nat) : ∀ cs, Child.weightList wc wt wr cs =
    Child.weightList 1 0 0 cs * wc + Child.weightList 0 1 0 cs * wt + Child.weightList 0 0 1 cs * wr
  | [] => by simp [Child.weightList]
  | c :: cs => by
    have h1 := Child.weight_lin wc wt wr c
    have h2 := Child.weightList_lin wc wt wr cs
    simp only [Child.weightList, Nat.add_mul]
    omega
end

theorem Child.weight_mono {wc wt wc' wt' : Nat} (wr : Nat) (hc : wc ≤ wc') (ht : wt ≤ wt') :
    ∀ ch, Child.weight wc wt wr ch ≤ Child.weight wc' wt' wr ch := fun ch => by
  rw [Child.weight_lin wc wt wr ch, Child.weight_lin wc' wt' wr ch]
  exact Nat.add_le_add_right (Nat.add_le_add (Nat.mul_le_mul_left _ hc) (Nat.mul_le_mul_left _ ht)) _

theorem Child.weightList_mono {wc wt wc' wt' : Nat} (wr : Nat) (hc : wc ≤ wc') (ht : wt ≤ wt') :
    ∀ cs, Child.weightList wc wt wr cs ≤ Child.weightList wc' wt' wr cs := fun cs => by
  rw [Child.weightList_lin wc wt wr cs, Child.weightList_lin wc' wt' wr cs]
  exact Nat.add_le_add_right (Nat.add_le_add (Nat.mul_le_mul_left _ hc) (Nat.mul_le_mul_left _ ht)) _

theorem sum_map_weight (wc wt wr : Nat) : ∀ cs : List Child,
    (cs.map (Child.weight wc wt wr)).sum = Child.weightList wc wt wr cs
  | [] => rfl
  | c :: cs => by
    simp only [List.map_cons, List.sum_cons, Child.weightList, sum_map_weight wc wt wr cs]

/-- The candidates of the union shortcut and the remaining children share the weight of an `or`. -/
theorem weight_or_split (wc wt wr : Nat) : ∀ cs : List Child,
    (computedRels cs).length * wc + Child.weightList wc wt wr (cs.filter (fun c => !c.isComputed))
      = Child.weightList wc wt wr cs
  | [] => by simp [computedRels, Child.weightList]
  | c :: cs => by
    have := weight_or_split wc wt wr cs
    cases c <;>
      simp only [computedRels, List.filter_cons, Child.isComputed, Child.weightList, Child.weight, List.length_cons,
        Nat.succ_mul, Bool.not_true, Bool.not_false, if_true, Bool.false_eq_true, if_false] at this ⊢ <;>
      omega

theorem weight_le_cfg (wc wt wr : Nat) {c : Cfg} {ns rel : String} {R : Relation} {rw : Rewrite}
    (hR : astRelationFor c ns rel = .rel R) (hrw : R.rewrite = some rw) :
    rw.weight wc wt wr ≤ Cfg.maxWeight wc wt wr c := by
  have h := le_cfg_max (Relation.weight wc wt wr) hR
  rwa [Relation.weight, hrw] at h

theorem callsBound_mono {nRw nComp nTtu W N nRw' nComp' nTtu' W' N' : Nat} (P : Nat)
    (h1 : nRw ≤ nRw') (h2 : nComp ≤ nComp') (h3 : nTtu ≤ nTtu') (h4 : W ≤ W') (h5 : N ≤ N') :
    ∀ {D D' : Nat}, D ≤ D' → callsBound nRw nComp nTtu W P N D ≤ callsBound nRw' nComp' nTtu' W' P N' D'
  | 0, _, _ => Nat.zero_le _
  | _+1, 0, h => absurd h (Nat.not_succ_le_zero _)
  | D+1, D'+1, h => by
    have hm : min W N ≤ min W' N' := by omega
    exact Nat.add_le_add
      (Nat.add_le_add (Nat.add_le_add_left h1 _) (Nat.mul_le_mul h3 (pagesBound_mono P h5)))
      (Nat.mul_le_mul (Nat.add_le_add (Nat.add_le_add h2 (Nat.mul_le_mul h3 h5)) hm)
        (callsBound_mono P h1 h2 h3 h4 h5 (Nat.le_of_succ_le_succ h)))

/-- Budget of a tuple-to-subject-set leaf whose checks have depth `d`. -/
def Env.ttuW (E : Env) (d : Int) : Nat :=
  pagesBound E.pageSize E.T.length + E.T.length * checkCallsBound E d

/-- The recurrence of the bound, in the depth as the engine counts it. -/
theorem checkCallsBound_step (E : Env) {d : Int} (hd : ¬ d ≤ 0) : checkCallsBound E d =
    2 + Cfg.nRw E.cfg + Cfg.nTtu E.cfg * pagesBound E.pageSize E.T.length
      + (Cfg.nComp E.cfg + Cfg.nTtu E.cfg * E.T.length + min E.maxWidth E.T.length)
        * checkCallsBound E (d - 1) := by
  have e : d.toNat = (d - 1).toNat + 1 := by omega
  unfold checkCallsBound
  rw [e, callsBound]

theorem checkCallsBound_mono (E : Env) {d d' : Int} (h : d ≤ d') : checkCallsBound E d ≤ checkCallsBound E d' :=
  callsBound_mono _ (Nat.le_refl _) (Nat.le_refl _) (Nat.le_refl _) (Nat.le_refl _) (Nat.le_refl _)
    (Int.toNat_le_toNat h)

theorem Env.ttuW_mono (E : Env) {d d' : Int} (h : d ≤ d') : E.ttuW d ≤ E.ttuW d' :=
  Nat.add_le_add_left (Nat.mul_le_mul_left _ (checkCallsBound_mono E h)) _

theorem rewrite_weight_le (a b : Nat) {c : Cfg} {ns rel : String} {R : Relation} {rw : Rewrite}
    (hR : astRelationFor c ns rel = .rel R) (hrw : R.rewrite = some rw) :
    1 + Child.weightList a b 1 rw.children ≤ Cfg.nRw c + Cfg.nComp c * a + Cfg.nTtu c * b := by
  show rw.weight a b 1 ≤ _
  have hl : rw.weight a b 1 = rw.weight 1 0 0 * a + rw.weight 0 1 0 * b + rw.weight 0 0 1 * 1 :=
    Child.weight_lin a b 1 _
  have h1 := Nat.mul_le_mul_right a (weight_le_cfg 1 0 0 hR hrw)
  have h2 := Nat.mul_le_mul_right b (weight_le_cfg 0 1 0 hR hrw)
  have h3 : rw.weight 0 0 1 ≤ Cfg.nRw c := weight_le_cfg 0 0 1 hR hrw
  unfold Cfg.nComp Cfg.nTtu
  omega

/-- One level: the rewrite, the direct lookup, the expansion. -/
theorem checkCallsBound_level (E : Env) {d : Int} (hd : ¬ d ≤ 0) :
    (Cfg.nRw E.cfg + Cfg.nComp E.cfg * checkCallsBound E (d - 1) + Cfg.nTtu E.cfg * E.ttuW (d - 1)) + 1
      + (1 + min E.maxWidth E.T.length * checkCallsBound E (d - 1)) ≤ checkCallsBound E d := by
  rw [checkCallsBound_step E hd]
  simp only [Env.ttuW, Nat.add_mul, Nat.mul_add, Nat.mul_assoc]
  omega

/-- Budget of a call: `checkCallsBound` for a check; for a rewrite (child), its weight with the budget of
    the checks it starts as the weight of a leaf. -/
def Call.cost (E : Env) : Call → Nat
  | .isAllowed _ d _ => checkCallsBound E d
  | .rewrite _ rw d => 1 + Child.weightList (checkCallsBound E (d - 1)) (E.ttuW (d - 1)) 1 rw.children
  | .child _ ch d _ => Child.weight (checkCallsBound E (d - 1)) (E.ttuW (d - 1)) 1 ch
  | .invert _ c d => Child.weight (checkCallsBound E (d - 1)) (E.ttuW (d - 1)) 1 c

theorem directStep_calls (E : Env) (t : Tuple) (d : Int) (g : Option Res) (w : World) :
    (directStep E t d g w).2.calls ≤ w.calls + 1 := by
  fun_cases directStep E t d g w
  · exact Nat.le_add_right ..
  · exact Nat.le_add_right ..
  · exact Nat.le_refl _
  · exact Nat.le_refl _

theorem expandRun_calls {E : Env} {rec : Tuple → Ctx → World → Res × World} {a : Nat}
    (hrec : ∀ t, TCost (rec t) a) (t : Tuple) (ctx : Ctx) (w : World) :
    (expandRun E rec t ctx w).2.calls ≤ w.calls + (1 + min E.maxWidth E.T.length * a) := by
  have hfw : ((initVisited ctx w).2.call E).2.calls = w.calls + 1 := by
    rw [call_calls, initVisited_calls]
  fun_cases expandRun E rec t ctx w
  · exact Nat.le_trans (Nat.le_of_eq hfw) (Nat.add_le_add_left (Nat.le_add_right ..) _)
  · exact Nat.le_trans (Nat.le_of_eq hfw) (Nat.add_le_add_left (Nat.le_add_right ..) _)
  · next cw fw _ sets _ over w2 sets' gw =>
    show (expandLoop rec t.sub sets' none cw.1 w2).2.calls ≤ _
    rw [expandLoop_eq]
    have h1 := gRun_calls (expandStep_calls hrec t.sub) sets' none cw.1 w2
    have hw2 : w2.calls = w.calls + 1 := by
      simp only [w2]
      split <;> exact hfw
    have hlen : sets.length ≤ E.T.length := List.length_filterMap_le _ _
    have hs : sets'.length ≤ min E.maxWidth sets.length := length_widthCut_le sets E.maxWidth
    have h2 : sets'.length * a ≤ min E.maxWidth E.T.length * a := Nat.mul_le_mul_right a (by omega)
    omega

theorem build_calls (E : Env) (fuel : Nat) (call : Call) (ctx : Ctx) (w : World) :
    BCost (build E fuel call ctx w) w (call.cost E) := by
  fun_induction build E fuel call ctx w with
  | case1 | case3 => exact BCost.const rfl  -- out of fuel; schema error
  | case2 | case5 | case7 | case9 | case13 => exact BCost.const rfl  -- depth exhausted
  | case4 fuel t d skip ctx w hd strict hlk rel? rw? gw1 gw2 canSS gw3 ihrw ihexp =>  -- checkIsAllowed
    refine ⟨checkCallsBound E d, 0, Nat.le_refl _, ?_, TCost.const _ 0⟩
    show gw3.2.calls ≤ _
    have hlev := checkCallsBound_level E hd
    have h1 : gw1.2.calls ≤ w.calls + (Cfg.nRw E.cfg + Cfg.nComp E.cfg * checkCallsBound E (d - 1)
        + Cfg.nTtu E.cfg * E.ttuW (d - 1)) := by
      cases hrw : rw? with
      | none =>
        simp only [gw1, hrw]
        exact Nat.le_add_right ..
      | some rw =>
        simp only [gw1, hrw]
        obtain ⟨R, hR, hRrw⟩ := lookup_rewrite_eq_some.1 hrw
        exact Nat.le_trans ((ihrw rw).runB ctx) (Nat.add_le_add_left (rewrite_weight_le _ _ hR hRrw) _)
    have h2 : gw2.2.calls ≤ gw1.2.calls + 1 := by
      simp only [gw2]
      split
      · exact directStep_calls ..
      · omega
    have h3 : gw3.2.calls ≤ gw2.2.calls + (1 + min E.maxWidth E.T.length * checkCallsBound E (d - 1)) := by
      simp only [gw3]
      cases canSS with
      | false => exact Nat.le_add_right ..
      | true =>
        simp only [if_true]
        split
        · exact Nat.le_add_right ..
        · split
          · exact Nat.le_add_right ..
          · exact expandRun_calls (fun t' c w' => (ihexp t' c w').runB c) t ctx gw2.2
    omega
  | case6 fuel t rw d ctx w hd isOr comps rest sc bw ths ihcomp ihch =>  -- rewrite
    simp only [Call.cost] at ihcomp ihch ⊢
    generalize checkCallsBound E (d - 1) = a at ihcomp ihch ⊢
    generalize E.ttuW (d - 1) = tw at ihch ⊢
    obtain ⟨cb, ct, hk, hb, hl⟩ := buildChildren_calls
      (fun ch c w' => build E fuel (Call.child t ch d false) c w') (rw.op == .and) (Child.weight a tw 1) rest
      (fun ch _ c w' => ihch ch c w') ctx w
    rw [sum_map_weight] at hk
    have hths : LCost ths ct := by
      simp only [ths]
      split
      · exact hl.mapWithFresh
      · exact hl
    have hsc : LCost sc (1 + comps.length * a) := by
      simp only [sc]
      cases comps.isEmpty with
      | true => trivial
      | false => exact ⟨1 + comps.length * a, 0, Nat.le_refl _,
          scRun_calls E t comps fun r c w'' => (ihcomp r c w'').runB c, trivial⟩
    have hsplit : comps.length * a + Child.weightList a tw 1 rest = Child.weightList a tw 1 rw.children := by
      simp only [comps, rest, isOr]
      split
      · exact weight_or_split a tw 1 rw.children
      · simp
    exact ⟨cb, (1 + comps.length * a) + ct, by omega, hb, opRun_calls rw.op (hsc.append hths)⟩
  | case8 fuel t d inv ctx w rel crel hd ih =>  -- tuple-to-subject-set
    simp only [Call.cost, Child.weight, Env.ttuW] at ih ⊢
    generalize checkCallsBound E (d - 1) = a at ih ⊢
    refine ⟨0, _, Nat.le_of_eq (Nat.zero_add _), Nat.le_refl _, ?_⟩
    intro c w'
    dsimp only
    have h1 := orRun_calls (pages_lcost E
      (rec := fun s c w'' => runB (build E fuel (.isAllowed ⟨s.1, s.2.1, crel, t.sub⟩ (d - 1) false) c w'') c)
      (fun s c w'' => (ih s c w'').runB c)
      (pagesOf E.pageSize (rowsOf E.T t.ns t.obj rel).length (rowsOf E.T t.ns t.obj rel))) c w'
    rw [← ttuPages_snd, pagesOf_flatten] at h1
    have h2 : _ ≤ pagesBound E.pageSize (rowsOf E.T t.ns t.obj rel).length :=
      pagesOf_length E.pageSize (rowsOf E.T t.ns t.obj rel).length (rowsOf E.T t.ns t.obj rel)
    have h3 : (rowsOf E.T t.ns t.obj rel).length ≤ E.T.length := List.length_filter_le _ _
    have h4 := pagesBound_mono E.pageSize h3
    have h5 := Nat.mul_le_mul_right a h3
    omega
  | case10 _ _ _ _ _ _ _ _ ih => exact ih  -- computed subject set
  | case11 _ t d inv _ _ _ cs ih =>  -- nested rewrite
    refine ih.mono ?_
    have hle : (if inv = true then d else d - 1) - 1 ≤ d - 1 := by omega
    exact Nat.add_le_add_left (Child.weightList_mono 1 (checkCallsBound_mono E hle) (E.ttuW_mono hle) cs) _
  | case12 _ _ _ _ _ _ _ ih => exact ih  -- child `!c`
  | case14 _ _ _ _ _ _ _ _ _ ih =>  -- invert
    obtain ⟨cb, ct, h1, h2, h3⟩ := ih
    exact ⟨cb, ct, h1, h2, fun _ w' => h3 (fresh w').1 (fresh w').2⟩
end Keto
