/-
  The relationship table by itself (Keto/Model/Store.lean: rows, chunked statements, keyset pagination) against
  the multiset specification: chunking is unobservable; the abstraction `abs` commutes with inserts (an insert
  is a permutation of a cons) and with filters on its key; one fetch of `getPage` is a prefix of the candidates
  of its token and leaves the rest to the next token (`getPage_spec`), from which both iteration theorems follow;
  inserts with fresh ids keep the table invariant; what a network observes depends on its `view` only.
-/
import Keto.Model.Store
import Keto.Spec.Multiset
import Keto.Proofs.FactsTie

namespace Keto.Store

theorem chunksF_flatten {α : Type} (n : Nat) (hn : 0 < n) (f : Nat) (l : List α) (h : l.length ≤ f) :
    (chunksF n f l).flatten = l := by
  fun_induction chunksF n f l with
  | case1 l => exact (List.eq_nil_of_length_eq_zero (Nat.le_zero.mp h)).symm
  | case2 => rfl
  | case3 f a as ih =>
    rw [List.flatten_cons, ih, List.take_append_drop]
    simp only [List.length_drop, List.length_cons] at h ⊢
    omega

theorem chunks_flatten {α : Type} (n : Nat) (hn : 0 < n) (l : List α) : (chunks n l).flatten = l :=
  chunksF_flatten n hn l.length l (Nat.le_refl _)

theorem chunksF_piece {α : Type} {n f : Nat} {l c : List α} (h : c ∈ chunksF n f l) :
    ∃ k, c = (l.drop k).take n := by
  fun_induction chunksF n f l with
  | case1 => cases h
  | case2 => cases h
  | case3 f a as ih =>
    rcases List.mem_cons.mp h with rfl | h
    · exact ⟨0, rfl⟩
    · obtain ⟨k, rfl⟩ := ih h
      exact ⟨n + k, by rw [List.drop_drop]⟩

theorem chunksF_bound {α : Type} (n : Nat) :
    ∀ (f : Nat) (l : List α), ∀ c ∈ chunksF n f l, c.length ≤ n := by
  intro f l c h
  obtain ⟨k, rfl⟩ := chunksF_piece h
  exact List.length_take_le ..

theorem mem_chunksF {α : Type} {n f : Nat} {l c : List α} {x : α} (h : c ∈ chunksF n f l) (hx : x ∈ c) :
    x ∈ l := by
  obtain ⟨k, rfl⟩ := chunksF_piece h
  exact List.mem_of_mem_drop (List.mem_of_mem_take hx)

theorem insertRows_append (a b : List Row) (s : Store) :
    insertRows (a ++ b) s = insertRows b (insertRows a s) := by
  induction a generalizing s with
  | nil => rfl
  | cons x xs ih => simp only [List.cons_append, insertRows]; exact ih _

theorem insertChunks_eq (cs : List (List Row)) (s : Store) :
    insertChunks cs s = insertRows cs.flatten s := by
  induction cs generalizing s with
  | nil => rfl
  | cons c cs ih => simp only [insertChunks, List.flatten_cons, insertRows_append]; exact ih _

theorem writeC_eq (c : Nat) (hc : 0 < c) (nid : Nat) (ins : List (Tuple × Nat)) (s : Store) :
    writeC c nid ins s = insertRows (mkRows nid ins) s := by
  unfold writeC
  rw [insertChunks_eq, chunks_flatten c hc]

theorem deleteStmt_append (nid : Nat) (a b : List Tuple) (s : Store) :
    deleteStmt nid (a ++ b) s = deleteStmt nid b (deleteStmt nid a s) := by
  unfold deleteStmt listed
  rw [List.filter_filter]
  congr 1
  funext r
  cases inNet nid r <;> simp [List.mem_append, Bool.and_comm]

theorem deleteStmt_nil (nid : Nat) (s : Store) : deleteStmt nid [] s = s := by
  unfold deleteStmt listed
  simp

theorem deleteChunks_eq (nid : Nat) (cs : List (List Tuple)) (s : Store) :
    deleteChunks nid cs s = deleteStmt nid cs.flatten s := by
  induction cs generalizing s with
  | nil => simp [deleteChunks, deleteStmt_nil]
  | cons c cs ih => simp only [deleteChunks, List.flatten_cons, deleteStmt_append]; exact ih _

theorem deleteC_eq (c : Nat) (hc : 0 < c) (nid : Nat) (ts : List Tuple) (s : Store) :
    deleteC c nid ts s = deleteStmt nid ts s := by
  unfold deleteC
  rw [deleteChunks_eq, chunks_flatten c hc]

theorem transactC_eq (cI cD : Nat) (hI : 0 < cI) (hD : 0 < cD) (nid : Nat) (ins : List (Tuple × Nat))
    (del : List Tuple) (s : Store) :
    transactC cI cD nid ins del s = deleteStmt nid del (insertRows (mkRows nid ins) s) := by
  unfold transactC
  rw [deleteC_eq cD hD, writeC_eq cI hI]

theorem hits_iff {nid : Nat} {q : Query} {r : Row} :
    hits nid q r = true ↔ r.nid = nid ∧ q.matches r.t = true := by
  simp [hits, inNet]

theorem abs_nil : abs [] = MS.empty := rfl

theorem abs_cons (r : Row) (s : Store) (n : Nat) (t : Tuple) :
    abs (r :: s) n t = abs s n t + (if r.nid = n ∧ r.t = t then 1 else 0) := by
  unfold abs
  rw [List.countP_cons]
  by_cases h : r.nid = n ∧ r.t = t <;> simp [h]

/-- An insert puts the row somewhere: all that `abs`, membership and counting need to know. -/
theorem insertRow_perm (r : Row) (s : Store) : (insertRow r s).Perm (r :: s) := by
  induction s with
  | nil => exact .refl _
  | cons x xs ih =>
    simp only [insertRow]
    split
    · exact .refl _
    · exact (ih.cons x).trans (.swap r x xs)

theorem insertRows_perm (rows : List Row) (s : Store) : (insertRows rows s).Perm (rows ++ s) := by
  induction rows generalizing s with
  | nil => exact .refl _
  | cons r rs ih => exact (ih _).trans (((insertRow_perm r s).append_left rs).trans List.perm_middle)

theorem mem_insertRow {r x : Row} {s : Store} : x ∈ insertRow r s ↔ x = r ∨ x ∈ s :=
  (insertRow_perm r s).mem_iff.trans List.mem_cons

theorem mem_insertRows {rows : List Row} {x : Row} {s : Store} :
    x ∈ insertRows rows s ↔ x ∈ rows ∨ x ∈ s :=
  (insertRows_perm rows s).mem_iff.trans List.mem_append

theorem abs_insertRows (rows : List Row) (s : Store) (n : Nat) (t : Tuple) :
    abs (insertRows rows s) n t = abs s n t + abs rows n t := by
  unfold abs
  rw [(insertRows_perm rows s).countP_eq, List.countP_append, Nat.add_comm]

theorem abs_mkRows (nid : Nat) (ins : List (Tuple × Nat)) (n : Nat) (t : Tuple) :
    abs (mkRows nid ins) n t = if n = nid then (ins.map (·.1)).count t else 0 := by
  induction ins with
  | nil => simp [mkRows, abs]
  | cons p ps ih =>
    have : mkRows nid (p :: ps) = ⟨p.2, nid, p.1⟩ :: mkRows nid ps := rfl
    rw [this, abs_cons, ih]
    simp only [List.map_cons, List.count_cons]
    by_cases hn : n = nid
    · subst hn
      by_cases ht : p.1 = t <;> simp [ht]
    · have : ¬ nid = n := fun h => hn h.symm
      simp [hn, this]

theorem abs_write (nid : Nat) (ins : List (Tuple × Nat)) (s : Store) :
    abs (insertRows (mkRows nid ins) s) = (abs s).create nid (ins.map (·.1)) := by
  funext n t
  rw [abs_insertRows, abs_mkRows]
  unfold MS.create
  split <;> simp

/-- Filtering by a predicate on the abstraction's key (network, relationship) commutes with `abs`:
    every `DELETE` and every listing of the persister is such a filter. -/
theorem abs_filter (P : Nat → Tuple → Bool) (s : Store) (n : Nat) (t : Tuple) :
    abs (s.filter fun r => P r.nid r.t) n t = if P n t = true then abs s n t else 0 := by
  unfold abs
  rw [List.countP_filter]
  split
  · next h =>
    apply List.countP_congr
    intro r _
    simp only [Bool.and_eq_true, decide_eq_true_eq]
    exact ⟨fun h' => h'.1, fun h' => ⟨h', by rw [h'.1, h'.2]; exact h⟩⟩
  · next h =>
    rw [List.countP_eq_zero]
    intro r _ h'
    simp only [Bool.and_eq_true, decide_eq_true_eq] at h'
    rw [h'.1.1, h'.1.2] at h'
    exact h h'.2

theorem abs_deleteStmt (nid : Nat) (ts : List Tuple) (s : Store) :
    abs (deleteStmt nid ts s) = (abs s).delete nid ts := by
  funext n t
  refine (abs_filter (fun a b => !(decide (a = nid) && decide (b ∈ ts))) s n t).trans ?_
  unfold MS.delete
  by_cases hn : n = nid <;> by_cases ht : t ∈ ts <;> simp [hn, ht]

theorem abs_deleteAll (nid : Nat) (q : Query) (s : Store) :
    abs (deleteAll nid q s) = (abs s).deleteAll nid q := by
  funext n t
  refine (abs_filter (fun a b => !(decide (a = nid) && q.matches b)) s n t).trans ?_
  unfold MS.deleteAll
  by_cases hn : n = nid <;> by_cases ht : q.matches t = true <;> simp [hn, ht]

theorem perPage_pos (size : Int) (h : 0 ≤ size) : 0 < perPage size := by
  unfold perPage
  split
  · exact FactsTie.defaultPageSize_pos
  · omega

/-- What `LIMIT n+1`, "drop the extra row", "token = last returned id" amount to. -/
theorem cut_take (n : Nat) (R : List Row) :
    cut n (R.take (n + 1)) =
      ⟨R.take n, if n < R.length then (R.take n).getLast?.map (·.shard) else none⟩ := by
  unfold cut
  by_cases h : n < R.length
  · have h1 : n < (R.take (n + 1)).length := by rw [List.length_take]; omega
    have h2 : (R.take (n + 1)).dropLast = R.take n := by
      rw [List.take_succ_eq_append_getElem h, List.dropLast_concat]
    simp only [h1, h, if_true, h2]
  · have h1 : ¬ n < (R.take (n + 1)).length := by rw [List.length_take]; omega
    have h2 : R.take (n + 1) = R := List.take_of_length_le (by omega)
    have h3 : R.take n = R := List.take_of_length_le (by omega)
    simp only [h, if_false, h2, h3]

theorem Sorted.filter {s : List Row} (h : Sorted s) (p : Row → Bool) : Sorted (s.filter p) :=
  List.Pairwise.filter p h

theorem mem_cands {nid : Nat} {q : Query} {last : Nat} {s : Store} {r : Row} :
    r ∈ cands nid q last s ↔ r ∈ s ∧ hits nid q r = true ∧ last < r.shard := by
  unfold cands
  simp [List.mem_filter]

theorem Sorted.filter_gt {a b : List Row} {x : Row} (h : Sorted (a ++ x :: b)) :
    (a ++ x :: b).filter (fun r => decide (x.shard < r.shard)) = b := by
  obtain ⟨_, hxb, hcross⟩ := List.pairwise_append.mp h
  have hb := (List.pairwise_cons.mp hxb).1
  rw [List.filter_append, List.filter_cons_of_neg (by simp), List.filter_eq_nil_iff.mpr,
    List.filter_eq_self.mpr, List.nil_append]
  · exact fun r hr => decide_eq_true (hb r hr)
  · intro r hr
    have := hcross r hr x (List.mem_cons_self ..)
    simp only [decide_eq_true_eq]; omega

/-- The next request (token = shard id of the last row `x` of the page `a`) sees exactly the rest `b`. -/
theorem cands_after {s : Store} (hs : Sorted s) (nid : Nat) (q : Query) (last : Nat) (a b : List Row) (x : Row)
    (hab : cands nid q last s = a ++ b) (hx : a.getLast? = some x) :
    cands nid q x.shard s = b := by
  obtain ⟨ini, rfl⟩ := List.getLast?_eq_some_iff.mp hx
  rw [List.append_assoc, List.singleton_append] at hab
  have hxl : last < x.shard := (mem_cands.mp (hab ▸ List.mem_append_right ini (List.mem_cons_self ..))).2.2
  have hsorted : Sorted (ini ++ x :: b) := hab ▸ hs.filter _
  rw [← hsorted.filter_gt, ← hab]
  unfold cands
  rw [List.filter_filter]
  apply List.filter_congr
  intro r _
  by_cases h : x.shard < r.shard
  · simp [h, show last < r.shard by omega]
  · simp [h]

theorem getPage_eq (nid : Nat) (q : Query) (size : Int) (hsz : 0 ≤ size) (tok : Token) (last : Nat)
    (ht : tokLast tok = some last) (s : Store) :
    getPage nid q size tok s =
      .ok ⟨(cands nid q last s).take (perPage size),
           if perPage size < (cands nid q last s).length then
             ((cands nid q last s).take (perPage size)).getLast?.map (·.shard) else none⟩ := by
  unfold getPage
  have : ¬ size < 0 := by omega
  simp only [this, if_false, ht, cut_take]

theorem getPage_ok_inv {nid : Nat} {q : Query} {size : Int} {tok : Token} {s : Store} {p : Page}
    (hp : getPage nid q size tok s = .ok p) : 0 ≤ size ∧ ∃ last, tokLast tok = some last := by
  revert hp
  fun_cases getPage nid q size tok s <;> intro hp <;> cases hp
  exact ⟨by omega, _, ‹_›⟩

theorem mem_getPage {nid : Nat} {q : Query} {size : Int} {tok : Token} {s : Store} {p : Page} {r : Row}
    (hp : getPage nid q size tok s = .ok p) (hr : r ∈ p.rows) : r ∈ s ∧ hits nid q r = true := by
  obtain ⟨hsz, last, ht⟩ := getPage_ok_inv hp
  rw [getPage_eq nid q size hsz tok last ht s] at hp
  cases hp
  have := mem_cands.mp (List.mem_of_mem_take hr)
  exact ⟨this.1, this.2.1⟩

/-- The shape of a complete iteration: all pages but the last are full and carry a token, the last page
    carries none. -/
def PagesShape (n : Nat) (ps : List Page) : Prop :=
  (∀ p ∈ ps, p.rows.length ≤ n) ∧
  ∃ ini lst, ps = ini ++ [lst] ∧ lst.next = none ∧ ∀ p ∈ ini, p.next ≠ none ∧ p.rows.length = n

theorem Sorted.nodup {s : List Row} (h : Sorted s) : s.Nodup := by
  refine List.Pairwise.imp ?_ h
  intro a b hab heq
  exact Nat.lt_irrefl _ (heq ▸ hab)

/-- The page is a prefix of the candidates of its token: all of them if it carries no token; if it carries the
    token `l` it is full and the candidates of `l` are exactly the rest.  Both iteration theorems (`follow_spec`
    on one table, `followI_count` on a changing one) are inductions over this. -/
theorem getPage_spec {s : Store} (hs : Sorted s) (nid : Nat) (q : Query) (size : Int) (hsz : 0 ≤ size)
    (tok : Token) (last : Nat) (ht : tokLast tok = some last) :
    ∃ p, getPage nid q size tok s = .ok p ∧ p.rows.length ≤ perPage size ∧
      match p.next with
      | none => p.rows = cands nid q last s
      | some l => p.rows.length = perPage size ∧ cands nid q last s = p.rows ++ cands nid q l s := by
  refine ⟨_, getPage_eq nid q size hsz tok last ht s, List.length_take_le _ _, ?_⟩
  have hn := perPage_pos size hsz
  generalize hR : cands nid q last s = R
  generalize perPage size = n at hn
  by_cases hbig : n < R.length
  · obtain ⟨x, hx⟩ : ∃ x, (R.take n).getLast? = some x := by
      cases h : (R.take n).getLast? with
      | none =>
        rcases List.take_eq_nil_iff.mp (List.getLast?_eq_none_iff.mp h) with h | h
        · omega
        · simp [h] at hbig
      | some x => exact ⟨x, rfl⟩
    simp only [hbig, if_true, hx, Option.map_some]
    refine ⟨by rw [List.length_take]; omega, ?_⟩
    rw [cands_after hs nid q last (R.take n) (R.drop n) x (by rw [hR, List.take_append_drop]) hx,
      List.take_append_drop]
  · simp only [hbig, if_false]
    exact List.take_of_length_le (by omega)

theorem follow_spec {s : Store} (hs : Sorted s) (nid : Nat) (q : Query) (size : Int) (hsz : 0 ≤ size) :
    ∀ (f : Nat) (tok : Token) (last : Nat), tokLast tok = some last →
      (cands nid q last s).length < f →
      ∃ ps, follow nid q size s f tok = some ps ∧ pagesRows ps = cands nid q last s ∧
        PagesShape (perPage size) ps := by
  intro f
  induction f with
  | zero => intro tok last _ h; omega
  | succ f ih =>
    intro tok last ht hlen
    obtain ⟨p, hp, hle, hnext⟩ := getPage_spec hs nid q size hsz tok last ht
    simp only [follow, hp]
    cases hl : p.next with
    | none =>
      rw [hl] at hnext
      exact ⟨[p], rfl, by simp [pagesRows, hnext], by simpa using hle, [], p, rfl, hl, by simp⟩
    | some l =>
      rw [hl] at hnext
      -- a page that carries a token is full, hence not empty: fewer candidates remain for the next fetch
      have hpos : 0 < p.rows.length := hnext.1 ▸ perPage_pos size hsz
      have hless : (cands nid q l s).length < f := by
        rw [hnext.2, List.length_append] at hlen
        omega
      obtain ⟨ps, hps, hrows, hbound, ini, lst, hshape, hlast, hini⟩ := ih (.at l) l rfl hless
      refine ⟨p :: ps, by simp only [hps, Option.map_some], ?_, ?_, p :: ini, lst, by rw [hshape]; rfl, hlast, ?_⟩
      · simp only [pagesRows, List.map_cons, List.flatten_cons] at hrows ⊢
        rw [hrows, ← hnext.2]
      · exact List.forall_mem_cons.mpr ⟨hle, hbound⟩
      · exact List.forall_mem_cons.mpr ⟨⟨by simp [hl], hnext.1⟩, hini⟩

theorem cands_zero {s : Store} (hpos : ∀ r ∈ s, 0 < r.shard) (nid : Nat) (q : Query) :
    cands nid q 0 s = matching nid q s := by
  unfold cands matching
  apply List.filter_congr
  intro r hr
  simp [hpos r hr]

theorem count_cands {s : Store} (hs : Sorted s) {nid : Nat} {q : Query} {r : Row} (hr : r ∈ s)
    (hq : hits nid q r = true) (last : Nat) :
    (cands nid q last s).count r = if last < r.shard then 1 else 0 := by
  have hc : Sorted (cands nid q last s) := hs.filter _
  rw [hc.nodup.count]
  simp [mem_cands, hr, hq]

/-- For a row `r` that is in every table the iteration sees: the pages from a request with token `last` on
    contain `r` once if `last < r.shard` (it is still to come) and not at all otherwise.  Per fetch, by
    `getPage_spec`: what the page holds of `r` is what the candidates of this token hold more than the
    candidates of the next. -/
theorem followI_count (nid : Nat) (q : Query) (size : Int) (hsz : 0 ≤ size) (r : Row)
    (hr : hits nid q r = true) :
    ∀ (stores : List Store), (∀ s ∈ stores, Sorted s ∧ r ∈ s) →
    ∀ (tok : Token) (last : Nat) (ps : List Page), tokLast tok = some last →
      followI nid q size tok stores = some ps →
      (pagesRows ps).count r = if last < r.shard then 1 else 0 := by
  intro stores
  induction stores with
  | nil => intro _ tok last ps _ h; simp [followI] at h
  | cons s ss ih =>
    intro hall tok last ps ht hf
    obtain ⟨hs, hrs⟩ := hall s (by simp)
    obtain ⟨p, hp, _, hnext⟩ := getPage_spec hs nid q size hsz tok last ht
    have hc := count_cands hs hrs hr last
    simp only [followI, hp] at hf
    cases hl : p.next with
    | none =>
      rw [hl] at hnext hf
      cases hf
      simpa [pagesRows, hnext] using hc
    | some l =>
      rw [hl] at hnext hf
      cases hrest : followI nid q size (.at l) ss with
      | none => simp [hrest] at hf
      | some ps' =>
        simp only [hrest, Option.map_some, Option.some.injEq] at hf
        subst hf
        have ih' := ih (fun s' h' => hall s' (List.mem_cons_of_mem _ h')) (.at l) l ps' rfl hrest
        rw [hnext.2, List.count_append, count_cands hs hrs hr l] at hc
        simp only [pagesRows, List.map_cons, List.flatten_cons, List.count_append] at ih' ⊢
        rw [ih', hc]

theorem insertRow_sorted {r : Row} {s : Store} (hs : Sorted s) (hf : ∀ x ∈ s, x.shard ≠ r.shard) :
    Sorted (insertRow r s) := by
  fun_induction insertRow r s with
  | case1 => exact List.pairwise_singleton ..
  | case2 y ys hlt =>
    refine List.pairwise_cons.mpr ⟨fun x hx => ?_, hs⟩
    rcases List.mem_cons.mp hx with rfl | hx
    · exact hlt
    · exact Nat.lt_trans hlt ((List.pairwise_cons.mp hs).1 x hx)
  | case3 y ys hnlt ih =>
    obtain ⟨hy, hys⟩ := List.pairwise_cons.mp hs
    refine List.pairwise_cons.mpr ⟨fun x hx => ?_, ih hys fun x hx => hf x (List.mem_cons_of_mem _ hx)⟩
    rcases mem_insertRow.mp hx with rfl | hx
    · have := hf y (List.mem_cons_self ..)
      omega
    · exact hy x hx

theorem insertRows_WF {rows : List Row} {s : Store} (hs : WF s) (hf : Fresh (rows.map (·.shard)) s) :
    WF (insertRows rows s) := by
  induction rows generalizing s with
  | nil => exact hs
  | cons r rs ih =>
    obtain ⟨hnd, hfr⟩ := hf
    obtain ⟨hr, hnd⟩ := List.nodup_cons.mp hnd
    obtain ⟨hpos, hnew⟩ := hfr r.shard (List.mem_cons_self ..)
    refine ih ⟨insertRow_sorted hs.1 hnew, fun x hx => ?_⟩ ⟨hnd, fun n hn => ?_⟩
    · rcases mem_insertRow.mp hx with rfl | hx
      · exact hpos
      · exact hs.2 x hx
    · obtain ⟨hn0, hns⟩ := hfr n (List.mem_cons_of_mem _ hn)
      refine ⟨hn0, fun x hx => ?_⟩
      rcases mem_insertRow.mp hx with rfl | hx
      · exact fun heq => hr (show x.shard ∈ _ from heq ▸ hn)
      · exact hns x hx

theorem filter_WF {s : Store} (hs : WF s) (p : Row → Bool) : WF (s.filter p) :=
  ⟨hs.1.filter p, fun r hr => hs.2 r (List.mem_filter.mp hr).1⟩

theorem mkRows_shards (nid : Nat) (ins : List (Tuple × Nat)) :
    (mkRows nid ins).map (·.shard) = ins.map (·.2) := by
  unfold mkRows
  rw [List.map_map]
  rfl

theorem Fresh_nil (s : Store) : Fresh [] s := ⟨List.nodup_nil, fun _ h => by cases h⟩

theorem filter_insertRow_of_neg {p : Row → Bool} {r : Row} (h : p r = false) (s : Store) :
    (insertRow r s).filter p = s.filter p := by
  have hr : ¬ p r = true := by rw [h]; exact Bool.false_ne_true
  fun_induction insertRow r s with
  | case1 => exact List.filter_cons_of_neg hr
  | case2 => exact List.filter_cons_of_neg hr
  | case3 y ys _ ih => rw [List.filter_cons, List.filter_cons, ih]

theorem filter_insertRows_of_neg {p : Row → Bool} {rows : List Row} (h : ∀ r ∈ rows, p r = false) (s : Store) :
    (insertRows rows s).filter p = s.filter p := by
  induction rows generalizing s with
  | nil => rfl
  | cons r rs ih =>
    rw [insertRows, ih (fun x hx => h x (List.mem_cons_of_mem _ hx)),
      filter_insertRow_of_neg (h r (List.mem_cons_self ..))]

theorem view_remove {A B : Nat} (hAB : A ≠ B) (p : Row → Bool) (s : Store) :
    view B (s.filter fun r => !(inNet A r && p r)) = view B s := by
  unfold view
  rw [List.filter_filter]
  apply List.filter_congr
  intro r _
  by_cases hb : r.nid = B
  · have : ¬ r.nid = A := fun ha => hAB (ha ▸ hb)
    simp [inNet, this]
  · simp [inNet, hb]

theorem cands_view (B : Nat) (q : Query) (last : Nat) (s : Store) :
    cands B q last (view B s) = cands B q last s := by
  unfold cands view
  rw [List.filter_filter]
  apply List.filter_congr
  intro r _
  unfold hits
  cases inNet B r <;> simp

theorem getPage_view (B : Nat) (q : Query) (size : Int) (tok : Token) (s : Store) :
    getPage B q size tok (view B s) = getPage B q size tok s := by
  simp only [getPage, cands_view]

theorem existsTuples_view (B : Nat) (q : Query) (s : Store) :
    existsTuples B q (view B s) = existsTuples B q s := by
  unfold existsTuples view
  rw [List.any_filter]
  congr 1
  funext r
  unfold hits
  cases inNet B r <;> simp

theorem follow_view (B : Nat) (q : Query) (size : Int) (s : Store) (f : Nat) (tok : Token) :
    follow B q size (view B s) f tok = follow B q size s f tok := by
  induction f generalizing tok with
  | zero => rfl
  | succ f ih => simp only [follow, getPage_view, ih]

theorem count_matching (nid : Nat) (q : Query) (s : Store) (t : Tuple) :
    ((matching nid q s).map (·.t)).count t = (abs s).list nid q t := by
  have h := abs_filter (fun a b => decide (a = nid) && q.matches b) s nid t
  simp only [decide_true, Bool.true_and] at h
  rw [MS.list, ← h, List.count_eq_countP, List.countP_map]
  apply List.countP_congr
  intro r hr
  simp [(hits_iff.mp (List.mem_filter.mp hr).2).1]

theorem abs_pos_iff (s : Store) (n : Nat) (t : Tuple) : 0 < abs s n t ↔ ∃ r ∈ s, r.nid = n ∧ r.t = t := by
  unfold abs
  rw [List.countP_pos_iff]
  simp

theorem existsTuples_iff (nid : Nat) (q : Query) (s : Store) :
    existsTuples nid q s = true ↔ (abs s).has nid q := by
  unfold existsTuples MS.has
  rw [List.any_eq_true]
  constructor
  · rintro ⟨r, hr, hh⟩
    obtain ⟨hn, hm⟩ := hits_iff.mp hh
    exact ⟨r.t, hm, (abs_pos_iff s nid r.t).mpr ⟨r, hr, hn, rfl⟩⟩
  · rintro ⟨t, hm, hpos⟩
    obtain ⟨r, hr, hn, ht⟩ := (abs_pos_iff s nid t).mp hpos
    exact ⟨r, hr, hits_iff.mpr ⟨hn, ht ▸ hm⟩⟩

theorem follow_listAll (nid : Nat) (q : Query) (size : Int) (s : Store) :
    (follow nid q size s (s.length + 1) .empty).map pagesRows = listAll nid q size s := rfl

theorem follow_matching {s : Store} (hwf : WF s) (nid : Nat) (q : Query) (size : Int) (hsz : 0 ≤ size)
    (fuel : Nat) (hfuel : (matching nid q s).length < fuel) :
    ∃ ps, follow nid q size s fuel .empty = some ps ∧ pagesRows ps = matching nid q s ∧
      PagesShape (perPage size) ps := by
  have h := follow_spec hwf.1 nid q size hsz fuel .empty 0 rfl
  rw [cands_zero hwf.2] at h
  exact h hfuel

theorem follow_all {s : Store} (hwf : WF s) (nid : Nat) (q : Query) (size : Int) (hsz : 0 ≤ size) :
    ∃ ps, follow nid q size s (s.length + 1) .empty = some ps ∧ pagesRows ps = matching nid q s := by
  obtain ⟨ps, hps, hrows, _⟩ :=
    follow_matching hwf nid q size hsz (s.length + 1) (Nat.lt_succ_of_le (List.length_filter_le ..))
  exact ⟨ps, hps, hrows⟩

end Keto.Store
