/-
  Lemmas for C14 over the interleaving model Keto/Model/Concurrency.lean. The idea: under `Consistent` a `useCell`
  step reads what the getter creates whoever got to the cell first, so the local state of a request is the fold
  of its own steps (`solo`), whatever the schedule.
-/
import Keto.Model.Concurrency

namespace Keto.Conc

variable {L : Type}

theorem setFn_same {β} (f : Nat → β) (k : Nat) (v : β) : setFn f k v k = v := by
  simp [setFn]

theorem setFn_other {β} (f : Nat → β) (k : Nat) (v : β) {i : Nat} (h : i ≠ k) :
    setFn f k v i = f i := by
  simp [setFn, h]

theorem setFn_self {β} (f : Nat → β) (k : Nat) : setFn f k (f k) = f := by
  funext i
  by_cases h : i = k
  · subst h; simp [setFn]
  · simp [setFn, h]

theorem solo_nil (S : Sys L) (k : Nat) (l : L) : solo S [] k l = l := by
  cases k <;> rfl

theorem solo_zero (S : Sys L) (ps : List (Step L)) (l : L) : solo S ps 0 l = l := by
  cases ps <;> rfl

/-- What a step does to the local state of the request that makes it when the cell it uses holds what
    the getter creates. -/
def Step.run (S : Sys L) : Step L → L → L
  | .loc f => f S.snap
  | .useCell c f => f (S.create c)

theorem solo_eq_foldl (S : Sys L) (ps : List (Step L)) (k : Nat) (l : L) :
    solo S ps k l = (ps.take k).foldl (fun l p => p.run S l) l := by
  induction ps generalizing k l with
  | nil => cases k <;> rfl
  | cons p ps ih => cases k <;> cases p <;> simp [solo, Step.run, ih]

theorem Step.run_congr {S S' : Sys L} (hsnap : S.snap = S'.snap) (hcreate : S.create = S'.create) :
    Step.run S = Step.run S' := by
  funext p
  cases p <;> simp [Step.run, hsnap, hcreate]

theorem solo_of_length_le (S : Sys L) (ps : List (Step L)) (k : Nat) (l : L)
    (h : ps.length ≤ k) : solo S ps k l = solo S ps ps.length l := by
  rw [solo_eq_foldl, solo_eq_foldl, List.take_of_length_le h, List.take_length]

theorem stepReq_other (S : Sys L) (s : State L) {q r : Nat} (h : r ≠ q) :
    (stepReq S s q).locals r = s.locals r ∧ (stepReq S s q).pcs r = s.pcs r := by
  fun_cases stepReq S s q
  · exact ⟨rfl, rfl⟩
  all_goals exact ⟨setFn_other _ _ _ h, setFn_other _ _ _ h⟩

theorem stepReq_pcs_self (S : Sys L) (s : State L) (r : Nat) :
    (stepReq S s r).pcs r = if s.pcs r < (S.prog r).length then s.pcs r + 1 else s.pcs r := by
  fun_cases stepReq S s r with
  | case1 h => rw [if_neg (Nat.not_lt.mpr (List.getElem?_eq_none_iff.mp h))]
  | case2 f h => rw [if_pos (List.getElem?_eq_some_iff.mp h).1]; exact setFn_same _ _ _
  | case3 c f h => rw [if_pos (List.getElem?_eq_some_iff.mp h).1]; exact setFn_same _ _ _

theorem stepReq_cells_some (S : Sys L) (s : State L) (q : Nat) {c : Cell} {v : Val}
    (h : s.cells c = some v) : (stepReq S s q).cells c = some v := by
  fun_cases stepReq S s q with
  | case1 => exact h
  | case2 => exact h
  | case3 c' f _ v' =>
    subst v'
    by_cases hc : c = c'
    · subst hc; simp [setFn, h]
    · simpa [setFn, hc] using h

theorem cell_getD_of_consistent (S : Sys L) (s : State L) (h : Consistent S s) (c : Cell) :
    (s.cells c).getD (S.create c) = S.create c := by
  cases hcell : s.cells c with
  | none => rfl
  | some w => simp [h c w hcell]

theorem stepReq_consistent (S : Sys L) (s : State L) (r : Nat) (h : Consistent S s) :
    Consistent S (stepReq S s r) := by
  fun_cases stepReq S s r with
  | case1 => exact h
  | case2 => exact h
  | case3 c f _ v =>
    subst v
    intro c' v' (hv : setFn s.cells c _ c' = some v')
    by_cases hc : c' = c
    · subst hc
      rw [setFn_same, cell_getD_of_consistent S s h c'] at hv
      exact (Option.some.inj hv).symm
    · exact h c' v' (by rwa [setFn_other _ _ _ hc] at hv)

/-- The step of `r` itself, as one `solo` step on the rest of its program. -/
theorem stepReq_self (S : Sys L) (s : State L) (r : Nat) (h : Consistent S s) (k : Nat) :
    solo S ((S.prog r).drop ((stepReq S s r).pcs r)) k ((stepReq S s r).locals r)
      = solo S ((S.prog r).drop (s.pcs r)) (k + 1) (s.locals r) := by
  fun_cases stepReq S s r with
  | case1 hnone =>
    rw [List.drop_eq_nil_of_le (List.getElem?_eq_none_iff.mp hnone), solo_nil, solo_nil]
  | case2 f hsome =>
    obtain ⟨hlt, hget⟩ := List.getElem?_eq_some_iff.mp hsome
    rw [List.drop_eq_getElem_cons hlt, hget]
    simp only [setFn_same, solo]
  | case3 c f hsome v =>
    subst v
    obtain ⟨hlt, hget⟩ := List.getElem?_eq_some_iff.mp hsome
    rw [List.drop_eq_getElem_cons hlt, hget]
    simp only [setFn_same, solo, cell_getD_of_consistent S s h c]

theorem exec_induction {P : State L → Prop} (S : Sys L) (hstep : ∀ s q, P s → P (stepReq S s q))
    (s : State L) (sched : List Nat) (h : P s) : P (exec S s sched) := by
  induction sched generalizing s with
  | nil => exact h
  | cons q rs ih => exact ih _ (hstep s q h)

theorem exec_consistent (S : Sys L) (s : State L) (sched : List Nat) (h : Consistent S s) :
    Consistent S (exec S s sched) :=
  exec_induction S (stepReq_consistent S) s sched h

theorem exec_locals (S : Sys L) (s : State L) (sched : List Nat) (h : Consistent S s)
    (r : Nat) :
    (exec S s sched).locals r
      = solo S ((S.prog r).drop (s.pcs r)) (sched.count r) (s.locals r) := by
  induction sched generalizing s with
  | nil => simp [exec, solo_zero]
  | cons q rs ih =>
    simp only [exec]
    rw [ih _ (stepReq_consistent S s q h)]
    by_cases hq : r = q
    · subst hq
      rw [List.count_cons_self]
      exact stepReq_self S s r h _
    · rw [(stepReq_other S s hq).1, (stepReq_other S s hq).2, List.count_cons_of_ne (Ne.symm hq)]

/-- The `max` is for a counter that starts beyond the end of the program (no run gets there): it stays where it
    is. -/
theorem exec_pcs (S : Sys L) (s : State L) (sched : List Nat) (r : Nat) :
    (exec S s sched).pcs r = min (max (s.pcs r) (S.prog r).length)
      (s.pcs r + sched.count r) := by
  induction sched generalizing s with
  | nil => simp [exec]; omega
  | cons q rs ih =>
    simp only [exec]
    rw [ih]
    by_cases hq : r = q
    · subst hq
      rw [List.count_cons_self, stepReq_pcs_self]
      split <;> omega
    · rw [(stepReq_other S s hq).2, List.count_cons_of_ne (Ne.symm hq)]

/-- `h`: every cell some program uses is created (Init ran). -/
theorem stepReq_cells_prewarmed (S : Sys L) (s : State L) (r : Nat)
    (h : ∀ c, (∃ r f, Step.useCell c f ∈ S.prog r) → s.cells c = some (S.create c)) :
    (stepReq S s r).cells = s.cells := by
  fun_cases stepReq S s r with
  | case1 => rfl
  | case2 => rfl
  | case3 c f hsome v =>
    subst v
    have hc : s.cells c = some (S.create c) := h c ⟨r, f, List.mem_of_getElem? hsome⟩
    simp only [hc, Option.getD_some]
    rw [← hc]
    exact setFn_self s.cells c

theorem exec_cells_prewarmed (S : Sys L) (s : State L) (sched : List Nat)
    (h : ∀ c, (∃ r f, Step.useCell c f ∈ S.prog r) → s.cells c = some (S.create c)) :
    (exec S s sched).cells = s.cells :=
  exec_induction (P := fun t => t.cells = s.cells) S
    (fun t q ht => (stepReq_cells_prewarmed S t q fun c hc => ht ▸ h c hc).trans ht) s sched rfl

theorem exec_cells_some (S : Sys L) (s : State L) (sched : List Nat) {c : Cell} {v : Val}
    (h : s.cells c = some v) : (exec S s sched).cells c = some v :=
  exec_induction S (fun t q => stepReq_cells_some S t q) s sched h

end Keto.Conc
