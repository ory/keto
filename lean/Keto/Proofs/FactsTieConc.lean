/-
  Fact ties for C14 and C19 (see Keto/Proofs/FactsTie.lean): registry pre-warming, lazy getters, lock use.
-/
import Keto.Generated.Facts

namespace Keto.FactsTie
open Keto.Facts

/-- Registry members that request goroutines obtain through lazy getters. -/
def requestPathGetters : List String := ["Tracer", "Writer", "Mapper", "ReadOnlyMapper", "PermissionEngine", "ExpandEngine"]

/-- Every such member is created in `RegistryDefault.Init`, which runs once before any
    request is served, so request goroutines only read it. -/
theorem prewarm_tie :
    requestPathGetters.all (fun g =>
      initCalls.contains ("internal/driver/registry_default.go", "RegistryDefault.Init", g)) = true := by
  decide +kernel

/-- The unguarded lazy getters of the registry are exactly the known ones (a new lazy
    member must be added to `requestPathGetters` or shown to be startup-only). -/
def expectedLazyInit : List (String × String × String) := [
  ("RegistryDefault.Mapper", "r.mapper", "unguarded"),
  ("RegistryDefault.ReadOnlyMapper", "r.readOnlyMapper", "unguarded"),
  ("RegistryDefault.HealthServer", "r.healthServer", "unguarded"),
  ("RegistryDefault.Tracer", "r.tracer", "unguarded"),
  ("RegistryDefault.MetricsHandler", "r.metricsHandler", "unguarded"),
  ("RegistryDefault.PrometheusManager", "r.pmm", "unguarded"),
  ("RegistryDefault.Logger", "r.l", "unguarded"),
  ("RegistryDefault.Writer", "r.w", "unguarded"),
  ("RegistryDefault.PermissionEngine", "r.ce", "unguarded"),
  ("RegistryDefault.ExpandEngine", "r.ee", "unguarded"),
  ("RegistryDefault.MigrationBox", "r.mb", "unguarded"),
  ("Config.NamespaceManager", "k.nm", "guarded")
]

theorem lazyInit_tie : lazyInit = expectedLazyInit := rfl

/-- Locking discipline of the shared mutable state that requests touch: the namespace
    managers swap their map under the write lock and read it under the read lock (so a
    reader sees the map before or after a complete `set`, C19), the visited set locks
    around check-and-add. -/
def expectedLockUse : List (String × String × String) := [
  ("internal/driver/config/namespace_memory.go", "memoryNamespaceManager.GetNamespaceByName", "RLock"),
  ("internal/driver/config/namespace_memory.go", "memoryNamespaceManager.GetNamespaceByConfigID", "RLock"),
  ("internal/driver/config/namespace_memory.go", "memoryNamespaceManager.Namespaces", "RLock"),
  ("internal/driver/config/namespace_memory.go", "memoryNamespaceManager.ShouldReload", "RLock"),
  ("internal/driver/config/namespace_memory.go", "memoryNamespaceManager.set", "Lock"),
  ("internal/driver/config/namespace_watcher.go", "NamespaceWatcher.handleRemove", "Lock"),
  ("internal/driver/config/namespace_watcher.go", "NamespaceWatcher.handleChange", "Lock"),
  ("internal/driver/config/namespace_watcher.go", "NamespaceWatcher.handleError", "none"),
  ("internal/driver/config/namespace_watcher.go", "NamespaceWatcher.readNamespaceFile", "none"),
  ("internal/driver/config/namespace_watcher.go", "NamespaceWatcher.GetNamespaceByName", "RLock"),
  ("internal/driver/config/namespace_watcher.go", "NamespaceWatcher.GetNamespaceByConfigID", "RLock"),
  ("internal/driver/config/namespace_watcher.go", "NamespaceWatcher.Namespaces", "RLock"),
  ("internal/driver/config/namespace_watcher.go", "NamespaceWatcher.NamespaceFiles", "RLock"),
  ("internal/driver/config/namespace_watcher.go", "NamespaceWatcher.ShouldReload", "none"),
  ("internal/driver/config/opl_config_namespace_watcher.go", "oplConfigWatcher.ShouldReload", "none"),
  ("internal/driver/config/opl_config_namespace_watcher.go", "oplConfigWatcher.handleChange", "Lock"),
  ("internal/driver/config/opl_config_namespace_watcher.go", "oplConfigWatcher.handleRemove", "Lock"),
  ("internal/driver/config/opl_config_namespace_watcher.go", "oplConfigWatcher.handleError", "none"),
  ("internal/driver/config/opl_config_namespace_watcher.go", "oplConfigWatcher.parseFiles", "none"),
  ("internal/x/graph/graph_utils.go", "stringSet.addNoDuplicate", "Lock")
]

theorem lockUse_tie : lockUse = expectedLockUse := rfl

end Keto.FactsTie
