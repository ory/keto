/-
  Fact tie for C03 (see Keto/Proofs/FactsTie.lean): shapes of the storage read calls.
-/
import Keto.Generated.Facts

namespace Keto.FactsTie
open Keto.Facts

/-- How the storage operations used by a check fetch their rows: through pop's
    `All` / `Exists` (which surface every driver error, including one raised while
    rows are being fetched), never through a hand-written row loop. The engine model
    treats a storage operation as one call that either fails or returns all rows; a
    storage operation that iterates rows itself would have to show that it reports
    iteration errors (C03). -/
def readCallShapes : List (String × String × String) :=
  sqlStrings.filter fun r =>
    (r.2.1 == "Traverser.TraverseSubjectSetExpansion" || r.2.1 == "Traverser.TraverseSubjectSetRewrite" ||
     r.2.1 == "Persister.GetRelationTuples" || r.2.1 == "Persister.ExistsRelationTuples") && r.2.2.startsWith "call:"

def expectedReadCallShapes : List (String × String × String) := [
  ("internal/persistence/sql/relationtuples.go", "Persister.GetRelationTuples", "call:queryWithNetwork"),
  ("internal/persistence/sql/relationtuples.go", "Persister.GetRelationTuples", "call:All"),
  ("internal/persistence/sql/relationtuples.go", "Persister.ExistsRelationTuples", "call:queryWithNetwork"),
  ("internal/persistence/sql/relationtuples.go", "Persister.ExistsRelationTuples", "call:Exists"),
  ("internal/persistence/sql/traverser.go", "Traverser.TraverseSubjectSetExpansion", "call:All"),
  ("internal/persistence/sql/traverser.go", "Traverser.TraverseSubjectSetExpansion", "call:RawQuery"),
  ("internal/persistence/sql/traverser.go", "Traverser.TraverseSubjectSetRewrite", "call:queryWithNetwork"),
  ("internal/persistence/sql/traverser.go", "Traverser.TraverseSubjectSetRewrite", "call:All")
]

/-- Before it compares anything `startsWith` asks for the byte size of `s`, and for that the kernel has to
    UTF-8-encode all of a string literal: costly for the 600-character SELECT in `sqlStrings`. The first
    byte is had without. -/
theorem startsWith_guard (s pat : String) :
    s.startsWith pat =
      ((pat.toByteArray.data.toList.take 1).isPrefixOf s.toByteArray.data.toList &&
        s.toSlice.startsWith pat) := by
  cases h : s.startsWith pat
  · exact (Bool.and_false _).symm.trans (congrArg _ h.symm)
  · obtain ⟨t, ht⟩ := String.startsWith_string_iff.mp h
    have e : s = pat ++ String.ofList t := by
      rw [← String.toList_inj, ← ht, String.toList_append, String.toList_ofList]
    refine (Bool.and_eq_true_iff.mpr ⟨?_, h⟩).symm
    rw [List.isPrefixOf_iff_prefix, e, String.toByteArray_append, ByteArray.data_append,
      Array.toList_append]
    exact (List.take_prefix 1 _).trans (List.prefix_append _ _)

theorem readCallShapes_tie : (readCallShapes == expectedReadCallShapes) = true := by
  rw [readCallShapes]
  simp only [startsWith_guard _ "call:"]
  decide +kernel

end Keto.FactsTie
