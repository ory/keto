/-
  The loops of the parser model, each walked through once (`fun_induction`), with one combined conclusion per loop:
  enough fuel (`need p < n`) means no panic, what is recorded points into the input, whatever is returned is
  covered by deferred checks, and the potential `phi` ends at most a constant above where it started, so the steps
  are linear. The loops above expressions and types are walked for any relation `K` between parser states that the
  parser keeps (`Keeps`); positions (`Inv N`) and coverage (`Top`) are the two instances used, and a further
  invariant of `Acts` is one more instance, not one more walk.

  The accounting. An iteration that goes on has pulled an item (`pulled_need`, `pulled_phi`): that pays 100, for
  its `tick` and `next` (2) and for whatever it does before the next iteration, which may therefore raise the
  potential by up to 98. The additive constant of a loop (50 for an expression, 10 for a type union, 30 and 70 for
  the two kinds of declarations, 80 for a class body, 90 overall; 32, 72, 84 with the opening `match`) only has to
  cover the last iteration, the one that need not consume anything. The constants are not tight; what matters is
  that a call of an inner loop, together with the `match`es around it, stays within the 98 of the iteration that
  makes it.
-/
import Keto.Proofs.OplActs

namespace Keto.Opl
open Keto

/-- What the expression loop started in `p` returns: it acts, the leaves of the rewrite it returns are covered by
    deferred checks, and the potential ends at most 50 above where it started: the last iteration pulls nothing and
    parses at most one leaf (40 steps). -/
structure ExprOk (p : P) (res : Option Rewrite × P) : Prop where
  acts : ∃ k, Acts p res.2 k
  pot : phi res.2 ≤ phi p + 50
  cov : ∀ rw, res.1 = some rw → CovChild res.2.checks res.2.ns.name rw.toChild

theorem ExprOk.exit {p X : P} {c : Nat} {o : Option Rewrite} (hX : Acts p X c) (hc : c ≤ 50)
    (hcov : ∀ rw, o = some rw → CovChild X.checks X.ns.name rw.toChild) : ExprOk p (o, X) :=
  ⟨⟨c, hX⟩, Nat.le_trans hX.phi (by omega), hcov⟩

theorem ExprOk.fail {p X : P} {c : Nat} (hX : Acts p X c) (hc : c ≤ 50) : ExprOk p (none, X) :=
  .exit hX hc fun _ e => nomatch e

theorem ExprOk.cont {p X : P} {c : Nat} {res : Option Rewrite × P} (hX : Acts p X c) (hphi : phi X ≤ phi p)
    (h : ExprOk X res) : ExprOk p res :=
  ⟨h.acts.elim fun _ hk => ⟨_, hX.trans hk⟩, by have := h.pot; omega, h.cov⟩

theorem RootOk.acts {p q : P} {k : Nat} {root : Option Rewrite} (hr : RootOk p root) (h : Acts p q k) :
    RootOk q root := fun r hroot =>
  h.ext.ns ▸ (hr r hroot).mono h.ext.checks

theorem pulled_need {p X : P} {n : Nat} (hf : ¬p.fatal = true) (hn : need p < n + 1) (hne : p.tick.next.1.typ ≠ .error)
    (hl : X.toks.length ≤ p.tick.next.2.toks.length) : need X < n := by
  rw [need_nonfatal p hf] at hn
  have : p.tick.next.2.toks.length + 1 = p.toks.length := next_len_of_item p.tick hne
  have := need_le X
  omega

theorem pulled_phi {p X : P} (hne : p.tick.next.1.typ ≠ .error) (hc : phi X ≤ phi p.tick.next.2 + 98) :
    phi X ≤ phi p := by
  have h1 : p.tick.next.2.toks.length + 1 = p.toks.length := next_len_of_item p.tick hne
  have := phi_consumed (Acts.pull p).cost (by omega)
  omega

theorem pulled_ne {p : P} {t : ItemType} (h : (p.tick.peek.typ == t) = true) (ht : t ≠ .error) :
    p.tick.next.1.typ ≠ .error :=
  next_peek _ ▸ typ_ne_error_of_eq h ht

theorem ExprOk.goOn {p X : P} {n c : Nat} {res : Option Rewrite × P} (hf : ¬p.fatal = true) (hn : need p < n + 1)
    (hne : p.tick.next.1.typ ≠ .error) (hX : Acts p.tick.next.2 X c) (hc : phi X ≤ phi p.tick.next.2 + 98)
    (ih : need X < n → ExprOk X res) : ExprOk p res :=
  .cont ((Acts.pull p).trans hX) (pulled_phi hne hc) (ih (pulled_need hf hn hne hX.len))

theorem exprLoop_ok (n : Nat) (fin : ItemType) (depth : Nat) (root : Option Rewrite) (expect : Bool) (p : P)
    (hr : RootOk p root) (hn : need p < n) : ExprOk p (exprLoop n fin depth root expect p) := by
  fun_induction exprLoop n fin depth root expect p with
  | case1 => omega
  | case2 => exact .fail .refl (by omega)
  -- "(": nested too deeply; the group fails; the group becomes a child
  | case3 n fin depth root expect p hf p1 item hty p2 hd =>
    exact .fail ((Acts.pull p).addFatal _ _ (Acts.pull p).seen_peek) (by omega)
  | case4 n fin depth root expect p hf p1 item hty p2 hd r hnone ih1 =>
    exact .goOn hf hn (pulled_ne hty (by decide)) .refl (by omega) fun hn' =>
      have ih : ExprOk p2 r := ih1 (RootOk.none _) hn'
      ⟨ih.acts, ih.pot, fun _ e => nomatch e⟩
  | case5 n fin depth root expect p hf p1 item hty p2 hd r ch hch ih1 ih2 =>
    have hne : p.tick.next.1.typ ≠ .error := pulled_ne hty (by decide)
    have ih : ExprOk p2 r := ih1 (RootOk.none _) (pulled_need hf hn hne (Nat.le_refl _))
    obtain ⟨k1, hk1⟩ := ih.acts
    exact .goOn hf hn hne hk1 (Nat.le_trans ih.pot (by show phi p2 + 50 ≤ phi p2 + 98; omega))
      (ih2 ((hr.acts ((Acts.pull p).trans hk1)).addChild (ih.cov ch hch)))
  -- the final token; "}"
  | case6 n fin depth root expect p hf p1 item _ hty => exact .exit (Acts.pull p) (by omega) (hr.acts (Acts.pull p))
  | case7 n fin depth root expect p hf p1 item _ _ hty =>
    have h1 : Acts p p1 1 := Acts.refl.tick
    exact .exit h1 (by omega) (hr.acts h1)
  -- "&&", "||": without, with a left operand
  | case8 n fin depth expect p hf p1 item _ _ _ hty p2 => exact .fail (Acts.pull p) (by omega)
  | case9 n fin depth expect p hf p1 item _ _ _ hty p2 r ih =>
    have hne : item.typ ≠ .error := fun he => by rw [he] at hty; simp at hty
    exact .goOn hf hn (next_peek _ ▸ hne) .refl (by omega) (ih ((hr.acts (Acts.pull p)).op _))
  -- "!": nested too deeply; "!(" nested too deeply (the nil rewrite is inverted); "!( … )"; "!" before a leaf
  | case10 n fin depth root expect p hf p1 item _ _ _ _ hty p2 hd =>
    exact .fail ((Acts.pull p).addFatal _ _ (Acts.pull p).seen_peek) (by omega)
  | case11 n fin depth root expect p hf p1 item _ _ _ _ hty p2 hd hpl p3 hd' ih =>
    have h3 : Acts p2 p3 1 := Acts.refl.next
    have h3' := h3.addFatal p3.peek .nestedTooDeep h3.seen_peek
    exact .goOn hf hn (pulled_ne hty (by decide)) h3'
      (by have := h3.phi; rw [phi_addFatal]; show phi p3 ≤ phi p2 + 98; omega)
      (ih ((hr.acts ((Acts.pull p).trans h3')).addChild (covChild_nil _ _).invert))
  | case12 n fin depth root expect p hf p1 item _ _ _ _ hty p2 hd hpl p3 hd' r inner ih1 ih2 =>
    have hne : p.tick.next.1.typ ≠ .error := pulled_ne hty (by decide)
    have h3 : Acts p2 p3 1 := Acts.refl.next
    have ih : ExprOk p3 r := ih1 (RootOk.none _) (pulled_need hf hn hne h3.len)
    obtain ⟨k1, hk1⟩ := ih.acts
    -- what is inverted: the parsed group, or the nil rewrite
    have hin : CovChild r.2.checks r.2.ns.name inner := by
      cases hr1 : r.1 with
      | none => simp only [inner, hr1]; exact covChild_nil _ _
      | some ch => simp only [inner, hr1]; exact ih.cov ch hr1
    exact .goOn hf hn hne (h3.trans hk1) (by have := ih.pot; have := h3.phi; show phi r.2 ≤ phi p2 + 98; omega)
      (ih2 ((hr.acts ((Acts.pull p).trans (h3.trans hk1))).addChild hin.invert))
  | case13 n fin depth root expect p hf p1 item _ _ _ _ hty p2 hd hpl l hnone =>
    have hl : Leaf p2 40 l := parsePermissionExpression_leaf .refl
    exact .fail ((Acts.pull p).trans hl.acts) (by omega)
  | case14 n fin depth root expect p hf p1 item _ _ _ _ hty p2 hd hpl l c hc ih =>
    have hl : Leaf p2 40 l := parsePermissionExpression_leaf .refl
    exact .goOn hf hn (pulled_ne hty (by decide)) hl.acts
      (Nat.le_trans hl.acts.phi (by show phi p2 + 40 ≤ phi p2 + 98; omega))
      (ih ((hr.acts ((Acts.pull p).trans hl.acts)).addChild (hl.cov c hc).invert))
  -- a leaf: not expected; not parsed; parsed. Here nothing was pulled beforehand: the leaf itself has cost an item.
  | case15 n fin depth root expect p hf p1 item _ _ _ _ _ he =>
    have h1 : Acts p p1 1 := Acts.refl.tick
    exact .fail (h1.addFatal _ _ h1.seen_peek) (by omega)
  | case16 n fin depth root expect p hf p1 item _ _ _ _ _ he l hnone =>
    have hl : Leaf p1 40 l := parsePermissionExpression_leaf .refl
    exact .fail ((Acts.refl.tick : Acts p p1 1).trans hl.acts) (by omega)
  | case17 n fin depth root expect p hf p1 item _ _ _ _ _ he l c hc ih =>
    rw [need_nonfatal p hf] at hn
    have hl : Leaf p1 40 l := parsePermissionExpression_leaf .refl
    have hlt : l.2.toks.length < p.toks.length := hl.lt (by rw [hc]; rfl)
    have h1 : Acts p p1 1 := Acts.refl.tick
    exact .cont (h1.trans hl.acts)
      (by have hs := hl.acts.cost.steps; have h3 : p1.steps = p.steps + 1 := rfl; unfold Opl.phi; omega)
      (ih ((hr.acts (h1.trans hl.acts)).addChild (hl.cov c hc)) (by have := need_le l.2; omega))

theorem matchSubjectSet_acts {p0 p : P} {k : Nat} (h : Acts p0 p k) :
    Acts p0 (matchSubjectSet p).2 (k + 5) ∧ CovTy (matchSubjectSet p).2.checks (matchSubjectSet p).1 := by
  unfold matchSubjectSet
  exact ⟨(h.mtch _).addCheck _ ⟨h.cap_mtch _ _, h.cap_mtch _ _⟩, .inr ⟨_, _, List.mem_cons_self, rfl, rfl⟩⟩

/-- What the loop over the types of a declaration returns from `p`. An error iteration goes on in a fatal state,
    where the loop returns at once: hence the bound 0 there. -/
structure TypesOk (p : P) (res : List RelType × P) : Prop where
  acts : ∃ k, Acts p res.2 k
  pot : phi res.2 ≤ phi p + (if p.fatal then 0 else 10)
  cov : ∀ ty ∈ res.1, CovTy res.2.checks ty

/-- One type of the union, read from `p.tick`. The `let`s repeat the loop body word for word: that is what lets the
    cases of `parseTypeUnion_ok` apply this lemma to the `tp` that `fun_induction` introduces. -/
theorem typeStep_ok (types : List RelType) (p : P) (ht : ∀ ty ∈ types, CovTy p.checks ty) :
    let r := p.tick.mtch [.item]
    let tp : List RelType × P :=
      if valIs (cap r.2.1 0) b!"SubjectSet" then (types ++ [(matchSubjectSet r.2.2).1], (matchSubjectSet r.2.2).2)
      else (types ++ [⟨bstr (cap r.2.1 0).val, ""⟩], r.2.2.addCheck (.nsExists (cap r.2.1 0)))
    Acts p tp.2 7 ∧ ∀ ty ∈ tp.1, CovTy tp.2.checks ty := by
  intro r tp
  have hr : Acts p r.2.2 2 := Acts.refl.tick.mtch _
  have old : ∀ {q : P} {k : Nat}, Acts p q k → ∀ ty ∈ types, CovTy q.checks ty := fun hq ty h =>
    (ht ty h).mono hq.ext.checks
  simp only [tp]
  split
  · have hm := matchSubjectSet_acts hr
    exact ⟨hm.1, List.forall_mem_append.mpr ⟨old hm.1, List.forall_mem_singleton.mpr hm.2⟩⟩
  · have ha := hr.addCheck (.nsExists (cap r.2.1 0)) (Acts.refl.tick.cap_mtch _ _)
    exact ⟨ha.mono (by omega), List.forall_mem_append.mpr
      ⟨old ha, List.forall_mem_singleton.mpr (.inl ⟨rfl, _, List.mem_cons_self, rfl⟩)⟩⟩

theorem TypesOk.pot_le {p : P} {res : List RelType × P} (h : TypesOk p res) : phi res.2 ≤ phi p + 10 :=
  Nat.le_trans h.pot (by split <;> omega)

theorem parseTypeUnion_ok (endTok : ItemType) (n : Nat) (types : List RelType) (p : P)
    (ht : ∀ ty ∈ types, CovTy p.checks ty) (hn : need p < n) : TypesOk p (parseTypeUnion endTok n types p) := by
  fun_induction parseTypeUnion endTok n types p with
  | case1 => omega
  | case2 => exact ⟨⟨0, .refl⟩, Nat.le_add_right _ _, ht⟩
  -- the end token; "|"; anything else (an error, and the loop goes on)
  | case3 n types p hf r identifier p1 tp nx hty =>
    have hs : Acts p tp.2 7 ∧ _ := typeStep_ok types p ht
    refine ⟨⟨_, hs.1.next⟩, ?_, fun ty h => (hs.2 ty h).mono (Acts.refl.next : Acts tp.2 _ 1).ext.checks⟩
    rw [if_neg hf]
    exact Nat.le_trans hs.1.next.phi (by omega)
  | case4 n types p hf r identifier p1 tp nx _ hty ih =>
    rw [need_nonfatal p hf] at hn
    have hs : Acts p tp.2 7 ∧ _ := typeStep_ok types p ht
    have hl : nx.2.toks.length + 1 = tp.2.toks.length := next_len_of_item tp.2 (typ_ne_error_of_eq hty (by decide))
    have ih := ih (fun ty h => (hs.2 ty h).mono (Acts.refl.next : Acts tp.2 _ 1).ext.checks)
      (by have := hs.1.len; have := need_le nx.2; omega)
    refine ⟨ih.acts.elim fun _ hk => ⟨_, hs.1.next.trans hk⟩, ?_, ih.cov⟩
    rw [if_neg hf]
    have hpot := ih.pot_le
    have : phi nx.2 + 100 ≤ phi p + (7 + 1) := phi_consumed hs.1.next.cost (by have := hs.1.len; omega)
    omega
  | case5 n types p hf r identifier p1 tp nx _ _ ih =>
    rw [need_nonfatal p hf] at hn
    have hs : Acts p tp.2 7 ∧ _ := typeStep_ok types p ht
    have hx : Acts tp.2 (nx.2.addFatal nx.1 .expectedUnion) 1 := Acts.refl.next.addFatal _ _ Acts.refl.seen_next
    have ih := ih (fun ty h => (hs.2 ty h).mono hx.ext.checks)
      (by rw [need_fatal _ rfl]; have := hs.1.len; have := hx.len; omega)
    refine ⟨ih.acts.elim fun _ hk => ⟨_, (hs.1.trans hx).trans hk⟩, ?_, ih.cov⟩
    -- rewritten, not left to unification: the state after `addFatal` is fatal
    have hfat : (nx.2.addFatal nx.1 .expectedUnion).fatal = true := rfl
    have hp := ih.pot
    rw [if_pos hfat, Nat.add_zero] at hp
    rw [if_neg hf]
    exact Nat.le_trans hp (Nat.le_trans (hs.1.trans hx).phi (by omega))

theorem parsePermissionExpressions_ok (n : Nat) (fin : ItemType) (depth : Nat) (p : P) (hn : need p < n) :
    ExprOk p (parsePermissionExpressions n fin depth p) := by
  unfold parsePermissionExpressions
  split
  · exact .fail (Acts.refl.addFatal _ _ Acts.refl.seen_peek) (by omega)
  · exact exprLoop_ok n fin depth none true p (RootOk.none p) hn

/-- What a relation between parser states has to be closed under for the loops above the expressions and types to
    keep it: the actions below the declaration level, and the three moves that touch the namespaces. -/
structure Keeps (K : P → P → Prop) : Prop where
  acts : ∀ {p q : P} {k : Nat}, Acts p q k → K p q
  trans : ∀ {p q r : P}, K p q → K q r → K p r
  addRelation : ∀ {p q : P} (R : Relation), K p q → CovRel q.checks q.ns.name R → K p (q.addRelation R)
  newNs : ∀ (p : P) (name : String), K p { p with ns := ⟨name, []⟩ }
  pushNs : ∀ (p : P), K p { p with nss := p.nss ++ [p.ns] }

/-- `q` is reached from `p` in `K`, consuming only, and the potential ends at most `c` above where it started. -/
structure LoopOk (K : P → P → Prop) (p q : P) (c : Nat) : Prop where
  k : K p q
  len : q.toks.length ≤ p.toks.length
  pot : phi q ≤ phi p + c

section
variable {K : P → P → Prop} (hK : Keeps K)
include hK

/-- An exit of a loop. -/
theorem LoopOk.exit {p q : P} {k c : Nat} (h : Acts p q k) (hk : k ≤ c) : LoopOk K p q c :=
  ⟨hK.acts h, h.len, Nat.le_trans h.phi (Nat.add_le_add_left hk _)⟩

theorem LoopOk.trans {p q r : P} {a b : Nat} (h1 : LoopOk K p q a) (h2 : LoopOk K q r b) : LoopOk K p r (a + b) :=
  ⟨hK.trans h1.k h2.k, Nat.le_trans h2.len h1.len, by have := h1.pot; have := h2.pot; omega⟩

/-- An iteration that pulled its item and goes on in `X`: what the rest of the run does from `X` carries over. -/
theorem LoopOk.step {p X q : P} {n a c : Nat} (hf : ¬p.fatal = true) (hn : need p < n + 1)
    (hne : p.tick.next.1.typ ≠ .error) (hX : LoopOk K p.tick.next.2 X a) (ha : a ≤ 98)
    (ih : need X < n → LoopOk K X q c) : LoopOk K p q c :=
  have ih := ih (pulled_need hf hn hne hX.len)
  ⟨hK.trans (hK.trans (hK.acts (Acts.pull p)) hX.k) ih.k, Nat.le_trans ih.len (Nat.le_trans hX.len (Acts.pull p).len),
    Nat.le_trans ih.pot (Nat.add_le_add_right (pulled_phi hne (Nat.le_trans hX.pot (Nat.add_le_add_left ha _))) c)⟩

/-- `LoopOk.step` where `X` is reached by actions, with a covered declaration added. -/
theorem LoopOk.decl {p X q : P} {R : Relation} {n a c : Nat} (hf : ¬p.fatal = true) (hn : need p < n + 1)
    (hne : p.tick.next.1.typ ≠ .error) (hX : Acts p.tick.next.2 X a) (hc : phi X ≤ phi p.tick.next.2 + 98)
    (hR : CovRel X.checks X.ns.name R) (ih : need (X.addRelation R) < n → LoopOk K (X.addRelation R) q c) :
    LoopOk K p q c :=
  LoopOk.step hK hf hn hne ⟨hK.addRelation R (hK.acts hX) hR, hX.len, hc⟩ (Nat.le_refl _) ih

theorem relatedLoop_ok (n : Nat) (p : P) (hn : need p < n) : LoopOk K p (relatedLoop n p) 30 := by
  fun_induction relatedLoop n p with
  | case1 => omega
  | case2 => exact .exit hK .refl (by decide)
  -- ";"; "}"
  | case3 n p hf nx item p2 hty ih =>
    exact .step hK hf hn (typ_ne_error_of_eq hty (by decide)) (.exit hK .refl (Nat.le_refl _)) (by decide) ih
  | case4 n p hf nx item p2 _ hty => exact .exit hK (Acts.pull p) (by decide)
  -- a declaration `name: T`: T is `Array<…>`; `SubjectSet<…>[]`; `(…)[]`; a namespace
  | case5 n p hf nx item p2 _ _ hty relation p3 nx' t p4 hv p5 tu ih =>
    have hne := typ_ne_error_of_or hty (by decide) (by decide)
    have h5 : Acts p2 p5 3 := ((Acts.refl.mtch _).next.mtch _)
    have htu : TypesOk p5 tu := parseTypeUnion_ok _ _ _ _ (fun _ h => nomatch h) (pulled_need hf hn hne h5.len)
    obtain ⟨k, hk⟩ := htu.acts
    exact .decl hK hf hn hne (h5.trans hk) (by have := htu.pot_le; have := h5.phi; show _ ≤ phi p2 + 98; omega)
      (covRel_types htu.cov) ih
  | case6 n p hf nx item p2 _ _ hty relation p3 nx' t p4 _ hv m p5 ih =>
    have hm : Acts p2 m.2 7 ∧ _ := matchSubjectSet_acts (Acts.refl.mtch _).next
    have h5 : Acts p2 p5 10 := hm.1.mtch _
    exact .decl hK hf hn (typ_ne_error_of_or hty (by decide) (by decide)) h5
      (Nat.le_trans h5.phi (Nat.add_le_add_left (by decide) _))
      (covRel_types fun ty h => List.mem_singleton.mp h ▸ hm.2.mono (Acts.refl.mtch _ : Acts m.2 p5 _).ext.checks) ih
  | case7 n p hf nx item p2 _ _ hty relation p3 nx' t p4 _ _ hpl tu p5 ih =>
    have hne := typ_ne_error_of_or hty (by decide) (by decide)
    have h4 : Acts p2 p4 2 := (Acts.refl.mtch _).next
    have htu : TypesOk p4 tu := parseTypeUnion_ok _ _ _ _ (fun _ h => nomatch h) (pulled_need hf hn hne h4.len)
    obtain ⟨k, hk⟩ := htu.acts
    have h5 : Acts tu.2 p5 3 := Acts.refl.mtch _
    exact .decl hK hf hn hne ((h4.trans hk).trans h5)
      (by have := htu.pot_le; have := h4.phi; have := h5.phi; show _ ≤ phi p2 + 98; omega)
      (covRel_types fun ty h => (htu.cov ty h).mono h5.ext.checks) ih
  | case8 n p hf nx item p2 _ _ hty relation p3 nx' t p4 _ _ _ p5 p6 ih =>
    have h3 : Acts p2 p3 1 := Acts.refl.mtch _
    have h6 : Acts p2 p6 5 := (h3.next.addCheck (.nsExists t) h3.seen_next).mtch _
    exact .decl hK hf hn (typ_ne_error_of_or hty (by decide) (by decide)) h6
      (Nat.le_trans h6.phi (Nat.add_le_add_left (by decide) _))
      (covRel_types fun ty h => List.mem_singleton.mp h ▸
        .inl ⟨rfl, _, (Acts.refl.mtch _ : Acts p5 p6 _).ext.checks _ List.mem_cons_self, rfl⟩) ih
  | case9 n p hf nx item p2 _ _ _ =>
    exact .exit hK ((Acts.pull p).addFatal _ _ Acts.refl.tick.seen_next) (by decide)

/-- A loop behind its opening `match` of two literals. -/
theorem LoopOk.opened {p q : P} {n c : Nat} (pats : List Pat) (hp : patsCost pats ≤ 2) (hn : need p < n)
    (ih : need (p.mtch pats).2.2 < n → LoopOk K (p.mtch pats).2.2 q c) : LoopOk K p q (c + 2) :=
  have h := (LoopOk.exit hK (Acts.refl.mtch pats) (Nat.le_trans (Nat.le_of_eq (Nat.zero_add _)) hp)).trans hK
    (ih (Nat.lt_of_le_of_lt (need_mtch ..) hn))
  ⟨h.k, h.len, Nat.le_trans h.pot (by omega)⟩

theorem parseRelated_ok (n : Nat) (p : P) (hn : need p < n) : LoopOk K p (parseRelated n p) 32 :=
  LoopOk.opened hK [.lit b!":", .lit b!"{"] (by decide) hn (relatedLoop_ok hK n _)

theorem permitsLoop_ok (n : Nat) (p : P) (hn : need p < n) : LoopOk K p (permitsLoop n p) 70 := by
  fun_induction permitsLoop n p with
  | case1 => omega
  | case2 => exact .exit hK .refl (by decide)
  -- "}"; a permission whose expression fails; a permission; anything else
  | case3 n p hf nx item p2 hty => exact .exit hK (Acts.pull p) (by decide)
  | case4 n p hf nx item p2 _ hty p3 r hnone =>
    have hne := typ_ne_error_of_or hty (by decide) (by decide)
    have h3 : Acts p2 p3 9 := Acts.refl.mtch _
    have he : ExprOk p3 r := parsePermissionExpressions_ok _ _ _ _ (pulled_need hf hn hne h3.len)
    obtain ⟨k, hk⟩ := he.acts
    have h2 : Acts p p2 2 := Acts.pull p
    exact ⟨hK.acts ((h2.trans h3).trans hk), ((h2.trans h3).trans hk).len,
      by have := he.pot; have := h3.phi; have := h2.phi; omega⟩
  | case5 n p hf nx item p2 _ hty permission p3 r rw hrw ih =>
    have hne := typ_ne_error_of_or hty (by decide) (by decide)
    have h3 : Acts p2 p3 9 := Acts.refl.mtch _
    have he : ExprOk p3 r := parsePermissionExpressions_ok _ _ _ _ (pulled_need hf hn hne h3.len)
    obtain ⟨k, hk⟩ := he.acts
    obtain ⟨r', hr1, hr2⟩ := simplifyExpression_some hrw
    exact .decl hK hf hn hne (h3.trans hk) (by have := he.pot; have := h3.phi; show _ ≤ phi p2 + 98; omega)
      (And.intro (fun _ h => by cases h) fun rw' e => by cases e; rw [hr2]; exact (he.cov r' hr1).simplify) ih
  | case6 n p hf nx item p2 _ _ => exact .exit hK ((Acts.pull p).addFatal _ _ Acts.refl.tick.seen_next) (by decide)

theorem parsePermits_ok (n : Nat) (p : P) (hn : need p < n) : LoopOk K p (parsePermits n p) 72 :=
  LoopOk.opened hK [.lit b!"=", .lit b!"{"] (by decide) hn (permitsLoop_ok hK n _)

theorem classLoop_ok (n : Nat) (p : P) (hn : need p < n) : LoopOk K p (classLoop n p) 80 := by
  fun_induction classLoop n p with
  | case1 => omega
  | case2 => exact .exit hK .refl (by decide)
  -- "}": the namespace is complete; "related"; "permits"; ";"; anything else
  | case3 n p hf nx item p2 hty =>
    exact ⟨hK.trans (hK.acts (Acts.pull p)) (hK.pushNs p2), (Acts.pull p).len,
      Nat.le_trans (Acts.pull p).phi (by omega)⟩
  | case4 n p hf nx item p2 _ hv ih =>
    exact .step hK hf hn (valIs_ne_error hv)
      (parseRelated_ok hK n p2 (pulled_need hf hn (valIs_ne_error hv) (Nat.le_refl _))) (by decide) ih
  | case5 n p hf nx item p2 _ _ hv ih =>
    exact .step hK hf hn (valIs_ne_error hv)
      (parsePermits_ok hK n p2 (pulled_need hf hn (valIs_ne_error hv) (Nat.le_refl _))) (by decide) ih
  | case6 n p hf nx item p2 _ _ _ hty ih =>
    exact .step hK hf hn (typ_ne_error_of_eq hty (by decide)) (.exit hK .refl (Nat.le_refl _)) (by decide) ih
  | case7 n p hf nx item p2 _ _ _ _ =>
    exact .exit hK ((Acts.pull p).addFatal _ _ Acts.refl.tick.seen_next) (by decide)

theorem parseClass_ok (n : Nat) (p : P) (hn : need p < n) : LoopOk K p (parseClass n p) 84 := by
  unfold parseClass
  extract_lets r name
  have h : Acts p r.2.2 4 := Acts.refl.mtch _
  have hn' : need r.2.2 < n := Nat.lt_of_le_of_lt (need_mtch ..) hn
  have ih := classLoop_ok hK n { r.2.2 with ns := ⟨name, []⟩ } hn'
  have hphi : phi r.2.2 ≤ phi p + 4 := h.phi
  exact ⟨hK.trans (hK.trans (hK.acts h) (hK.newNs r.2.2 name)) ih.k, Nat.le_trans ih.len h.len,
    Nat.le_trans ih.pot (Nat.add_le_add_right hphi 80)⟩

theorem parseLoop_ok (n : Nat) (p : P) (hn : need p < n) :
    LoopOk K p (parseLoop n p) (if p.fatal then 0 else 90) := by
  fun_induction parseLoop n p with
  | case1 => omega
  | case2 => exact .exit hK .refl (Nat.zero_le _)
  -- end of input; a lexer error (reported, and the loop returns at once); a class; anything else is skipped
  | case3 n p hf nx item p2 hty =>
    rw [if_neg hf]
    exact .exit hK (Acts.pull p) (by decide)
  | case4 n p hf nx item p2 _ hty ih =>
    rw [need_nonfatal p hf] at hn
    have hx : Acts p (p2.addFatal item (.fatalLex item.err)) 2 := (Acts.pull p).addFatal _ _ Acts.refl.tick.seen_next
    have ih := ih (by rw [need_fatal _ rfl]; have := hx.len; omega)
    rw [if_neg hf]
    exact ⟨hK.trans (hK.acts hx) ih.k, Nat.le_trans ih.len hx.len, Nat.le_trans ih.pot (Nat.le_trans hx.phi (by omega))⟩
  | case5 n p hf nx item p2 _ _ hty ih =>
    have hne := typ_ne_error_of_eq hty (by decide)
    rw [if_neg hf]
    exact .step hK hf hn hne (parseClass_ok hK n p2 (pulled_need hf hn hne (Nat.le_refl _))) (by decide)
      fun h => ⟨(ih h).k, (ih h).len, Nat.le_trans (ih h).pot (by split <;> omega)⟩
  | case6 n p hf nx item p2 _ herr _ ih =>
    rw [if_neg hf]
    exact .step (X := p2) hK hf hn (fun he => herr (by rw [he]; rfl)) (.exit hK .refl (Nat.le_refl _)) (by decide)
      fun h => ⟨(ih h).k, (ih h).len, Nat.le_trans (ih h).pot (by split <;> omega)⟩

theorem parseItems_run (items : List Item) :
    LoopOk K { toks := items.filter fun i => !isComment i } (parseItems items) 90 :=
  parseLoop_ok hK ((items.filter fun i => !isComment i).length + 2) { toks := items.filter fun i => !isComment i }
    (by rw [need_nonfatal _ Bool.false_ne_true]; exact Nat.lt_succ_self _)

end

theorem Inv.keeps (N : Pos) : Keeps (Inv N) where
  acts h := h.inv N
  trans := Inv.trans
  addRelation R h _ := h.addRelation R
  newNs p _ := (Inv.refl N p).frame rfl rfl rfl rfl
  pushNs p := (Inv.refl N p).frame rfl rfl rfl rfl

theorem Top.keeps : Keeps Top where
  acts h := ((Step.refl _).ext h.ext).top
  trans := Top.trans
  addRelation R h hR := h.trans ((Step.refl _).addRelation R hR).top
  newNs _ _ := ⟨fun _ h => h, fun hc => ⟨hc.nss, fun _ hR => nomatch hR⟩⟩
  pushNs _ :=
    ⟨fun _ h => h, fun hc => ⟨List.forall_mem_append.mpr ⟨hc.nss, List.forall_mem_singleton.mpr hc.ns⟩, hc.ns⟩⟩

theorem parseItems_ok (N : Pos) (items : List Item) (h : ∀ i ∈ items, okI N i) :
    (parseItems items).panic = false ∧ (∀ e ∈ (parseItems items).errors, okE N e) ∧
    (∀ c ∈ (parseItems items).checks, okC N c) := by
  have hinv := (parseItems_run (Inv.keeps N) items).k
  have hg := hinv.g ⟨fun i hi => h i (List.mem_filter.mp hi).1, fun _ he => (nomatch he), fun _ hc => (nomatch hc)⟩
  exact ⟨hinv.panic, hg.errs, hg.checks⟩

/-- The parser takes at most `100·|items| + 90` steps (calls of `next` and loop iterations). -/
theorem parseItems_steps (items : List Item) : (parseItems items).steps ≤ 100 * items.length + 90 := by
  have h : (parseItems items).steps + 100 * (parseItems items).toks.length ≤ _ := (parseItems_run Top.keeps items).pot
  have : (items.filter fun i => !isComment i).length ≤ items.length := List.length_filter_le _ _
  simp only [Opl.phi, Nat.zero_add] at h
  omega

/-- Whatever the input, every type of every relation and every leaf of every rewrite of every namespace the syntax
    phase produced is covered by a deferred check. -/
theorem parseItems_cov (items : List Item) : ∀ N ∈ (parseItems items).nss, CovNs (parseItems items).checks N :=
  ((parseItems_run Top.keeps items).k.cov ⟨fun _ hN => (nomatch hN), fun _ hR => (nomatch hR)⟩).nss

end Keto.Opl
