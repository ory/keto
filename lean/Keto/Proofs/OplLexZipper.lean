/-
  A twin of the lexer model that reads the input through a zipper. The kernel evaluates `Array` indexing (`s[i]?`,
  hence `byteAt`, `decodeRune`, `hasPrefixAt`, `extract`) in time proportional to the index, so `lex` on a concrete
  document costs it time quadratic in the length. `lexZ` keeps the bytes before and after `pos` as two lists and never
  indexes; `lex_eq_lexZ` says the two agree, and the examples about concrete documents are evaluated through it.
-/
import Keto.Proofs.OplLexLemmas

namespace Keto.Opl

/-- The lexer state with the input split at `pos`: `before` holds the bytes read so far, last first. -/
structure ZL where
  l : L
  before : List UInt8
  after : List UInt8

def ZL.setPanic (z : ZL) : ZL := { z with l := z.l.setPanic }

/-- Move `k` bytes from `after` to `before`. -/
def ZL.fwd (z : ZL) (k : Nat) : ZL := { z with before := (z.after.take k).reverse ++ z.before, after := z.after.drop k }

/-- The last `k` bytes read, in order. -/
def ZL.last (z : ZL) (k : Nat) : List UInt8 := (z.before.take k).reverse

def nextZ (n : Nat) (z : ZL) : Option Nat × ZL :=
  if n ≤ z.l.pos then (none, { z with l := { z.l with width := 0, steps := z.l.steps + 1 } })
  else
    let rw := decodeRuneL z.after
    (some rw.1, { z.fwd rw.2 with l := { z.l with pos := z.l.pos + rw.2, width := rw.2, steps := z.l.steps + 1 } })

def backupZ (z : ZL) : ZL :=
  if z.l.width ≤ z.l.pos then
    { l := { z.l with pos := z.l.pos - z.l.width }, before := z.before.drop z.l.width,
      after := z.last z.l.width ++ z.after }
  else z.setPanic

def peekZ (n : Nat) (z : ZL) : Option Nat × ZL :=
  let r := nextZ n z
  (r.1, backupZ r.2)

def ignoreZ (z : ZL) : ZL := { z with l := ignore z.l }

def emitZ (n : Nat) (t : ItemType) (z : ZL) : ZL :=
  if z.l.start ≤ z.l.pos ∧ z.l.pos ≤ n then
    { z with l := { z.l with items := ⟨t, z.last (z.l.pos - z.l.start), z.l.start, z.l.pos, .none⟩ :: z.l.items,
                             start := z.l.pos } }
  else z.setPanic

def errorfZ (n : Nat) (e : LexErr) (z : ZL) : ZL :=
  if z.l.pos ≤ n then { z with l := { z.l with items := ⟨.error, [], z.l.start, z.l.pos, e⟩ :: z.l.items } }
  else z.setPanic

def acceptZ (n : Nat) (valid : Nat → Bool) (z : ZL) : Bool × ZL :=
  let r := nextZ n z
  if inClass valid r.1 then (true, r.2) else (false, backupZ r.2)

def acceptRunZ (n : Nat) (valid : Nat → Bool) : Nat → ZL → ZL
  | 0, z => z.setPanic
  | m+1, z =>
    let r := nextZ n z
    if inClass valid r.1 then acceptRunZ n valid m r.2 else backupZ r.2

def scanIdentifierZ (n : Nat) (z : ZL) : Bool × ZL :=
  let a := acceptZ n isLetter z
  if a.1 then (true, acceptRunZ n isLetterOrDigit (n + 1) a.2) else (false, a.2)

/-- `{ l with pos := l.pos + 2 }` after a two-byte prefix matched. -/
def ZL.skip2 (z : ZL) : ZL := { z.fwd 2 with l := { z.l with pos := z.l.pos + 2 } }

def lexCodeTokZ (n : Nat) (r : Nat) (z : ZL) : Option StateFn × ZL :=
  if n < z.l.pos then (none, z.setPanic)
  else if b!"=>".isPrefixOf z.after then (some .code, emitZ n .opArrow z.skip2)
  else if b!"||".isPrefixOf z.after then (some .code, emitZ n .opOr z.skip2)
  else if b!"&&".isPrefixOf z.after then (some .code, emitZ n .opAnd z.skip2)
  else if b!"//".isPrefixOf z.after then (some .lineComment, z.skip2)
  else if b!"/*".isPrefixOf z.after then (some .blockComment, z.skip2)
  else match oneRuneToken r with
    | some t => (some .code, emitZ n t (nextZ n z).2)
    | none =>
      if r == 39 || r == 34 then (some .stringLiteral, z)
      else
        let sc := scanIdentifierZ n z
        if sc.1 then
          if sc.2.l.start ≤ sc.2.l.pos ∧ sc.2.l.pos ≤ n then
            match keyword (sc.2.last (sc.2.l.pos - sc.2.l.start)) with
            | some kw => (some .code, emitZ n kw sc.2)
            | none => (some .code, emitZ n .identifier sc.2)
          else (none, sc.2.setPanic)
        else (none, errorfZ n .unexpectedToken sc.2)

def lexCodeZ (n : Nat) (z : ZL) : Option StateFn × ZL :=
  let pk := peekZ n (ignoreZ (acceptRunZ n isSpace (n + 1) z))
  match pk.1 with
  | none => (none, emitZ n .eof pk.2)
  | some r => lexCodeTokZ n r pk.2

def lineCommentLoopZ (n : Nat) : Nat → ZL → Option StateFn × ZL
  | 0, z => (none, z.setPanic)
  | m+1, z =>
    let r := nextZ n z
    match r.1 with
    | none => (some .code, emitZ n .comment (backupZ r.2))
    | some c =>
      if c == 10 then (some .code, emitZ n .comment (backupZ r.2))
      else lineCommentLoopZ n m r.2

def blockCommentLoopZ (n : Nat) : Nat → Option Nat → ZL → Option StateFn × ZL
  | 0, _, z => (none, z.setPanic)
  | m+1, r, z =>
    match r with
    | none => (none, errorfZ n .unclosedComment z)
    | some _ =>
      if n < z.l.pos then (none, z.setPanic)
      else if b!"*/".isPrefixOf z.after then (some .code, emitZ n .comment z.skip2)
      else
        let nx := nextZ n z
        blockCommentLoopZ n m nx.1 nx.2

def stringLoopZ (n : Nat) (q : Option Nat) : Nat → ZL → Option StateFn × ZL
  | 0, z => (none, z.setPanic)
  | m+1, z =>
    let r := nextZ n z
    match r.1 with
    | none => (none, errorfZ n .unclosedString r.2)
    | some c =>
      if some c == q then
        let z' := emitZ n .stringLiteral (backupZ r.2)
        (some .code, ignoreZ (nextZ n z').2)
      else stringLoopZ n q m r.2

def stepFnZ (n : Nat) : StateFn → ZL → Option StateFn × ZL
  | .code, z => lexCodeZ n z
  | .lineComment, z => lineCommentLoopZ n (n + 1) z
  | .blockComment, z =>
    let pk := peekZ n z
    blockCommentLoopZ n (n + 2) pk.1 pk.2
  | .stringLiteral, z =>
    let r := nextZ n z
    stringLoopZ n r.1 (n + 1) (ignoreZ r.2)

def runLexZ (n : Nat) : Nat → StateFn → ZL → ZL
  | 0, _, z => z.setPanic
  | m+1, fn, z =>
    let r := stepFnZ n fn { z with l := { z.l with steps := z.l.steps + 1 } }
    match r.1 with
    | none => r.2
    | some fn' => runLexZ n m fn' r.2

def lexZ (s : List UInt8) : LexResult :=
  let z := runLexZ s.length (lexFuel s.length) .code ⟨{}, [], s⟩
  ⟨z.l.items.reverse, z.l.steps, z.l.panic⟩

/-- The zipper of the input `s` at the position of `l`. -/
def zip (s : Array UInt8) (l : L) : ZL := ⟨l, (s.toList.take l.pos).reverse, s.toList.drop l.pos⟩

theorem decodeBytes_avail (avail c0 c1 c2 c3 : Nat) (h : 4 ≤ avail) :
    decodeBytes avail c0 c1 c2 c3 = decodeBytes 4 c0 c1 c2 c3 := by
  have hl := leadInfo_cases c0
  have e : (avail < (leadInfo c0).1) = (4 < (leadInfo c0).1) := propext ⟨fun _ => by omega, fun _ => by omega⟩
  simp only [decodeBytes, e]

theorem byteAt_drop (s : Array UInt8) (pos j : Nat) :
    byteAt s (pos + j) = (((s.toList.drop pos)[j]?).getD 0).toNat := by
  rw [byteAt, List.getElem?_drop, Array.getElem?_toList]

theorem decodeRune_eq (s : Array UInt8) (pos : Nat) : decodeRune s pos = decodeRuneL (s.toList.drop pos) := by
  unfold decodeRune
  split
  · next h =>
    rw [List.drop_eq_nil_of_le (by simpa using h)]
    rfl
  · next h =>
    have hlen : (s.toList.drop pos).length = s.size - pos := by simp
    rw [← Nat.add_zero pos, byteAt_drop, byteAt_drop, byteAt_drop, byteAt_drop, Nat.add_zero, ← hlen]
    generalize s.toList.drop pos = d at hlen ⊢
    match d, hlen with
    | [], hl => exact absurd hl.symm (by simp only [List.length_nil]; omega)
    | [_], _ | [_, _], _ | [_, _, _], _ => rfl
    | a :: b :: c :: d :: tl, _ => exact decodeBytes_avail _ _ _ _ _ (by simp)

theorem zip_l (s : Array UInt8) (l : L) : (zip s l).l = l := rfl
theorem zip_after (s : Array UInt8) (l : L) : (zip s l).after = s.toList.drop l.pos := rfl
theorem zip_setPanic (s : Array UInt8) (l : L) : (zip s l).setPanic = zip s l.setPanic := rfl
theorem zip_ignore (s : Array UInt8) (l : L) : ignoreZ (zip s l) = zip s (ignore l) := rfl
theorem zip_tick (s : Array UInt8) (l : L) :
    { zip s l with l := { (zip s l).l with steps := (zip s l).l.steps + 1 } } =
      zip s { l with steps := l.steps + 1 } := rfl

theorem zip_fwd (s : Array UInt8) (l : L) (k w st : Nat) :
    { (zip s l).fwd k with l := { l with pos := l.pos + k, width := w, steps := st } } =
      zip s { l with pos := l.pos + k, width := w, steps := st } := by
  simp only [zip, ZL.fwd, List.take_add, List.reverse_append, List.drop_drop]

theorem skip2_zip (s : Array UInt8) (l : L) : (zip s l).skip2 = zip s { l with pos := l.pos + 2 } :=
  zip_fwd s l 2 l.width l.steps

theorem nextZ_zip (s : Array UInt8) (l : L) : nextZ s.size (zip s l) = ((next s l).1, zip s (next s l).2) := by
  fun_cases next s l
  all_goals simp +zetaDelta only [nextZ, zip_l, zip_after, ← decodeRune_eq, *, ↓reduceIte]
  · rfl
  · exact congrArg _ (zip_fwd s l _ _ _)

theorem rev_take_drop {α : Type} (l : List α) (p w : Nat) (hw : w ≤ p) (h : w = 0 ∨ p ≤ l.length) :
    (l.take p).reverse.drop w = (l.take (p - w)).reverse ∧
    ((l.take p).reverse.take w).reverse ++ l.drop p = l.drop (p - w) := by
  rcases h with rfl | h
  · simp
  · have hl : (l.take p).length = p := by simp [h]
    constructor
    · rw [List.drop_reverse, hl, List.take_take, Nat.min_eq_left (Nat.sub_le _ _)]
    · rw [List.take_reverse, hl, List.reverse_reverse]
      conv => rhs; rw [← List.take_append_drop p l]
      rw [List.drop_append_of_le_length (by rw [hl]; exact Nat.sub_le _ _)]

/-- `backup` after `next`: either nothing was read (`width = 0`) or the position is inside the input. -/
theorem backupZ_zip (s : Array UInt8) (l : L) (h : l.width = 0 ∨ l.pos ≤ s.size) :
    backupZ (zip s l) = zip s (backup l) := by
  fun_cases backup l
  all_goals simp only [backupZ, zip_l, *, ↓reduceIte]
  · next hw =>
    obtain ⟨h1, h2⟩ := rev_take_drop s.toList l.pos l.width hw h
    exact congr (congrArg _ h1) h2
  · rfl

theorem backupZ_next (s : Array UInt8) (l : L) : backupZ (zip s (next s l).2) = zip s (backup (next s l).2) := by
  refine backupZ_zip s _ ?_
  fun_cases next s l with
  | case1 => exact .inl rfl
  | case2 h => exact .inr (decodeRune_width s l.pos (Nat.lt_of_not_le h)).2

theorem peekZ_zip (s : Array UInt8) (l : L) : peekZ s.size (zip s l) = ((peek s l).1, zip s (peek s l).2) := by
  simp only [peekZ, peek, nextZ_zip, backupZ_next]

theorem acceptZ_zip (s : Array UInt8) (valid : Nat → Bool) (l : L) :
    acceptZ s.size valid (zip s l) = ((accept s valid l).1, zip s (accept s valid l).2) := by
  fun_cases accept s valid l
  all_goals simp +zetaDelta only [acceptZ, nextZ_zip, backupZ_next, *, ↓reduceIte, Bool.false_eq_true]

theorem acceptRunZ_zip (s : Array UInt8) (valid : Nat → Bool) (n : Nat) (l : L) :
    acceptRunZ s.size valid n (zip s l) = zip s (acceptRun s valid n l) := by
  fun_induction acceptRun s valid n l
  all_goals rw [acceptRunZ]
  all_goals simp +zetaDelta only [*, nextZ_zip, backupZ_next, zip_setPanic, ↓reduceIte, Bool.false_eq_true]

theorem scanIdentifierZ_zip (s : Array UInt8) (l : L) :
    scanIdentifierZ s.size (zip s l) = ((scanIdentifier s l).1, zip s (scanIdentifier s l).2) := by
  fun_cases scanIdentifier s l
  all_goals simp +zetaDelta only [scanIdentifierZ, acceptZ_zip, acceptRunZ_zip, *, ↓reduceIte, Bool.false_eq_true]

theorem zip_last (s : Array UInt8) (l : L) (h1 : l.start ≤ l.pos) (h2 : l.pos ≤ s.size) :
    (zip s l).last (l.pos - l.start) = (s.extract l.start l.pos).toList := by
  have hl : (s.toList.take l.pos).length = l.pos := by simp [h2]
  rw [ZL.last, zip, List.take_reverse, List.reverse_reverse, hl, Nat.sub_sub_self h1, Array.toList_extract,
    List.extract_eq_take_drop, List.drop_take]

theorem emitZ_zip (s : Array UInt8) (t : ItemType) (l : L) : emitZ s.size t (zip s l) = zip s (emit s t l) := by
  fun_cases emit s t l
  all_goals simp only [emitZ, zip_l, zip_last, *, and_self, ↓reduceIte]
  all_goals rfl

theorem errorfZ_zip (s : Array UInt8) (e : LexErr) (l : L) : errorfZ s.size e (zip s l) = zip s (errorf s e l) := by
  fun_cases errorf s e l
  all_goals simp only [errorfZ, zip_l, *, ↓reduceIte]
  all_goals rfl

theorem hasPrefixAt_eq (s : Array UInt8) (i : Nat) (bs : List UInt8) :
    hasPrefixAt s i bs = bs.isPrefixOf (s.toList.drop i) := by
  fun_induction hasPrefixAt s i bs with
  | case1 => simp
  | case2 i b bs ih =>
    rw [ih, ← Array.getElem?_toList, ← List.head?_drop, ← List.drop_drop (i := 1)]
    cases s.toList.drop i with
    | nil => rfl
    | cons a tl =>
      show (some a == some b && _) = (b == a && _)
      rw [Option.some_beq_some, BEq.comm]
      rfl

theorem lexCodeTokZ_zip (s : Array UInt8) (r : Nat) (l : L) :
    lexCodeTokZ s.size r (zip s l) = ((lexCodeTok s r l).1, zip s (lexCodeTok s r l).2) := by
  unfold lexCodeTokZ
  simp only [zip_l, zip_after, ← hasPrefixAt_eq, skip2_zip, emitZ_zip, errorfZ_zip, nextZ_zip, scanIdentifierZ_zip,
    zip_setPanic]
  fun_cases lexCodeTok s r l
  all_goals simp +zetaDelta only [*, ↓reduceIte, Bool.false_eq_true, and_self, zip_last]

theorem lexCodeZ_zip (s : Array UInt8) (l : L) :
    lexCodeZ s.size (zip s l) = ((lexCode s l).1, zip s (lexCode s l).2) := by
  unfold lexCodeZ lexCode
  simp only [acceptRunZ_zip, zip_ignore, peekZ_zip]
  generalize peek s _ = pk
  match pk with
  | (none, l') => exact congrArg _ (emitZ_zip s _ l')
  | (some r, l') => exact lexCodeTokZ_zip s r l'

theorem lineCommentLoopZ_zip (s : Array UInt8) (n : Nat) (l : L) :
    lineCommentLoopZ s.size n (zip s l) = ((lineCommentLoop s n l).1, zip s (lineCommentLoop s n l).2) := by
  fun_induction lineCommentLoop s n l
  all_goals rw [lineCommentLoopZ]
  all_goals simp +zetaDelta only [*, nextZ_zip, backupZ_next, emitZ_zip, zip_setPanic, ↓reduceIte, Bool.false_eq_true]

theorem blockCommentLoopZ_zip (s : Array UInt8) (n : Nat) (r : Option Nat) (l : L) :
    blockCommentLoopZ s.size n r (zip s l) =
      ((blockCommentLoop s n r l).1, zip s (blockCommentLoop s n r l).2) := by
  fun_induction blockCommentLoop s n r l
  all_goals rw [blockCommentLoopZ]
  all_goals simp +zetaDelta only [*, zip_l, zip_after, ← hasPrefixAt_eq, skip2_zip, nextZ_zip, emitZ_zip, errorfZ_zip,
    zip_setPanic, ↓reduceIte, Bool.false_eq_true]

theorem stringLoopZ_zip (s : Array UInt8) (q : Option Nat) (n : Nat) (l : L) :
    stringLoopZ s.size q n (zip s l) = ((stringLoop s q n l).1, zip s (stringLoop s q n l).2) := by
  fun_induction stringLoop s q n l
  all_goals rw [stringLoopZ]
  all_goals simp +zetaDelta only [*, nextZ_zip, backupZ_next, emitZ_zip, errorfZ_zip, zip_ignore, zip_setPanic,
    ↓reduceIte, Bool.false_eq_true]

theorem stepFnZ_zip (s : Array UInt8) (fn : StateFn) (l : L) :
    stepFnZ s.size fn (zip s l) = ((stepFn s fn l).1, zip s (stepFn s fn l).2) := by
  cases fn
  · exact lexCodeZ_zip s l
  · exact lineCommentLoopZ_zip s _ l
  · simp only [stepFnZ, stepFn, peekZ_zip, blockCommentLoopZ_zip]
  · simp only [stepFnZ, stepFn, nextZ_zip, zip_ignore, stringLoopZ_zip]

theorem runLexZ_zip (s : Array UInt8) (n : Nat) (fn : StateFn) (l : L) :
    runLexZ s.size n fn (zip s l) = zip s (runLex s n fn l) := by
  fun_induction runLex s n fn l
  all_goals rw [runLexZ]
  all_goals simp +zetaDelta only [*, zip_tick, stepFnZ_zip, zip_setPanic]

theorem lex_eq_lexZ (s : List UInt8) : lex s.toArray = lexZ s := by
  unfold lex lexZ
  rw [show (⟨{}, [], s⟩ : ZL) = zip s.toArray {} from rfl, ← List.size_toArray, runLexZ_zip]
  rfl

end Keto.Opl
