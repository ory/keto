/-
  The actions of the parser model below the declaration level. Every parser function there only ticks, pulls
  items, and records errors and deferred checks about items it has pulled: `Acts p0 q k`. Positions (`Inv`), steps
  (`Cost`) and the frame of the coverage argument (`Ext`) follow from `Acts` by one induction each; so `match` and
  the parsers of a single permission check are walked through once, here. The step bounds (5, 30, 40) add up the
  patterns of the `match`es on the longest path, generously.
-/
import Keto.Proofs.OplMatch
import Keto.Proofs.OplParseLemmas

namespace Keto.Opl
open Keto

def SeenC (l : List Item) : TypeCheck → Prop
  | .nsExists a => Seen l a
  | .nsHasRelation a b => Seen l a ∧ Seen l b
  | .curNsHasRelation _ a => Seen l a
  | .allTypesHaveRelation _ a _ => Seen l a

/-- `q` is reached from `p0` by parser actions that leave the namespaces alone; at most `k` of them count as
    steps (`tick`, `next`), and what is recorded is about items `p0` still had to come. -/
inductive Acts (p0 : P) : P → Nat → Prop
  | refl : Acts p0 p0 0
  | mono {q k k'} : Acts p0 q k → k ≤ k' → Acts p0 q k'
  | tick {q k} : Acts p0 q k → Acts p0 q.tick (k + 1)
  | next {q k} : Acts p0 q k → Acts p0 q.next.2 (k + 1)
  | addFatal {q k} (i : Item) (e : ErrKind) : Acts p0 q k → Seen p0.toks i → Acts p0 (q.addFatal i e) k
  | addCheck {q k} (c : TypeCheck) : Acts p0 q k → SeenC p0.toks c → Acts p0 (q.addCheck c) k

namespace Acts
variable {p0 p q : P} {k : Nat}

theorem seen (h : Acts p0 q k) {i : Item} (hi : Seen q.toks i) : Seen p0.toks i := by
  induction h with
  | refl => exact hi
  | next _ ih =>
    rw [next_eq] at hi
    exact ih (hi.drop (k := 1))
  | mono _ _ ih => exact ih hi
  | tick _ ih => exact ih hi
  | addFatal _ _ _ _ ih => exact ih hi
  | addCheck _ _ _ ih => exact ih hi

theorem seen_next (h : Acts p0 q k) : Seen p0.toks q.next.1 := by
  rw [next_eq]
  exact h.seen (seen_headD _)

theorem seen_peek (h : Acts p0 q k) : Seen p0.toks q.peek := h.seen (seen_headD _)

theorem trans {r : P} {a b : Nat} (h1 : Acts p0 q a) (h2 : Acts q r b) : Acts p0 r (a + b) := by
  induction h2 with
  | refl => exact h1
  | mono _ hk ih => exact ih.mono (by omega)
  | tick _ ih => exact ih.tick
  | next _ ih => exact ih.next
  | addFatal i e _ hs ih => exact ih.addFatal i e (h1.seen hs)
  | addCheck c _ hs ih =>
    refine ih.addCheck c ?_
    cases c with
    | nsHasRelation _ _ => exact ⟨h1.seen hs.1, h1.seen hs.2⟩
    | _ => exact h1.seen hs

theorem cost (h : Acts p0 q k) : Cost p0 q k := by
  induction h with
  | refl => exact Cost.refl _
  | next _ ih => exact ih.next
  | mono _ hk ih => exact ih.mono hk
  | tick _ ih => exact ih.tick
  | addFatal _ _ _ _ ih => exact ih.addFatal _ _
  | addCheck _ _ _ ih => exact ih.addCheck _

theorem len (h : Acts p0 q k) : q.toks.length ≤ p0.toks.length := h.cost.len

theorem phi (h : Acts p0 q k) : phi q ≤ phi p0 + k := h.cost.phi

theorem ext (h : Acts p0 q k) : Ext p0 q := by
  induction h with
  | refl => exact Ext.refl _
  | next _ ih => exact ih.next
  | mono _ _ ih => exact ih
  | tick _ ih => exact ih.tick
  | addFatal _ _ _ _ ih => exact ih.addFatal _ _
  | addCheck _ _ _ ih => exact ih.addCheck _

theorem inv (N : Pos) (h : Acts p0 q k) : Inv N p0 q := by
  induction h with
  | refl => exact Inv.refl _ _
  | next _ ih => exact ih.next
  | mono _ _ ih => exact ih
  | tick _ ih => exact ih.tick
  | addFatal _ _ _ hs ih => exact ih.addFatal _ _ (·.seen hs)
  | addCheck c _ hs ih =>
    refine ih.addCheck _ (fun hg => ?_)
    cases c with
    | nsHasRelation a b => exact ⟨hg.seen hs.1, hg.seen hs.2⟩
    | _ => exact hg.seen hs

/-- The head of every loop iteration that pulls an item. -/
theorem pull (p : P) : Acts p p.tick.next.2 2 := Acts.refl.tick.next

theorem adv (h : Acts p0 p k) : ∀ j, Acts p0 (p.adv j) (k + j)
  | 0 => h
  | j+1 => by
    have := (h.adv j).next
    rwa [next_eq, adv_adv] at this

theorem fin (h : Acts p0 p k) (j : Nat) {err : Option (Item × ErrKind)} (he : ∀ e, err = some e → Seen p.toks e.1) :
    Acts p0 (p.fin j err) (k + j) := by
  cases err with
  | none => exact h.adv j
  | some e => exact (h.adv j).addFatal _ _ (h.seen (he e rfl))

theorem mtch_caps (h : Acts p0 p k) (pats : List Pat) :
    Acts p0 (p.mtch pats).2.2 (k + patsCost pats) ∧ ∀ i ∈ (p.mtch pats).2.1, Seen p0.toks i := by
  rw [mtch_eq]
  have hs := matchL_spec pats p.toks [] 0
  split
  · exact ⟨h.mono (Nat.le_add_right _ _), fun _ hi => nomatch hi⟩
  · exact ⟨(h.fin _ hs.2.1).mono (by omega), fun i hi => h.seen ((hs.2.2 i hi).resolve_left (nomatch ·))⟩

theorem mtch (h : Acts p0 p k) (pats : List Pat) : Acts p0 (p.mtch pats).2.2 (k + patsCost pats) :=
  (h.mtch_caps pats).1

theorem cap_mtch (h : Acts p0 p k) (pats : List Pat) (j : Nat) : Seen p0.toks (cap (p.mtch pats).2.1 j) :=
  seen_cap (h.mtch_caps pats).2 j

theorem _root_.Keto.Opl.need_mtch (p : P) (pats : List Pat) : need (p.mtch pats).2.2 ≤ need p := by
  by_cases hf : p.fatal = true
  · rw [mtch_eq, if_pos hf]
    exact Nat.le_refl _
  · rw [need_nonfatal p hf]
    exact Nat.le_trans (need_le _) (Nat.succ_le_succ (Acts.refl.mtch pats).len)

/-- A successful `match` whose first pattern is a string has pulled an item that was there. -/
theorem mtch_lt (h : Acts p0 p k) {t : List UInt8} {ps : List Pat} (hs : (p.mtch (.lit t :: ps)).1 = true) :
    (p.mtch (.lit t :: ps)).2.2.toks.length < p0.toks.length :=
  Nat.lt_of_lt_of_le (Opl.mtch_lt p t ps hs) h.len

theorem mtchIf_caps (h : Acts p0 p k) (typ : ItemType) (pats : List Pat) :
    Acts p0 (p.mtchIf typ pats).2.2 (k + patsCost pats) ∧ ∀ i ∈ (p.mtchIf typ pats).2.1, Seen p0.toks i := by
  rw [mtchIf_eq]
  split
  · exact ⟨h.mono (Nat.le_add_right _ _), fun _ hi => nomatch hi⟩
  · exact h.mtch_caps pats

theorem mtchIf (h : Acts p0 p k) (typ : ItemType) (pats : List Pat) :
    Acts p0 (p.mtchIf typ pats).2.2 (k + patsCost pats) :=
  (h.mtchIf_caps typ pats).1

theorem mpa_caps (h : Acts p0 p k) (pat : Pat) (hp : patCost pat = 1) :
    Acts p0 (matchPropertyAccess pat p).2.2 (k + 5) ∧ ∀ i ∈ (matchPropertyAccess pat p).2.1, Seen p0.toks i := by
  unfold matchPropertyAccess
  extract_lets r1 r2
  have h1 := h.mtchIf_caps .bracketLeft [.lit b!"[", pat, .lit b!"]"]
  have h2 := h1.1.mtch_caps [.lit b!".", pat]
  have hc : patsCost [.lit b!"[", pat, .lit b!"]"] = 3 ∧ patsCost [.lit b!".", pat] = 2 := by
    simp only [patsCost, hp]
    decide
  split
  · exact ⟨h1.1.mono (by omega), h1.2⟩
  · exact ⟨h2.1.mono (by omega),
      fun i hi => (List.mem_append.mp hi).elim (h1.2 i) (h2.2 i)⟩

theorem mpa (h : Acts p0 p k) (pat : Pat) (hp : patCost pat = 1) : Acts p0 (matchPropertyAccess pat p).2.2 (k + 5) :=
  (h.mpa_caps pat hp).1

end Acts

theorem Inv.cap_mtchIf {N : Pos} {p q : P} (h : Inv N p q) (typ : ItemType) (pats : List Pat) (k : Nat) (hg : G N p) :
    okI N (cap (q.mtchIf typ pats).2.1 k) :=
  (h.g hg).seen (seen_cap ((Acts.refl (p0 := q)).mtchIf_caps typ pats).2 k)

/-- What the parsers of a single permission check return: nothing, or a leaf together with the deferred checks for the names in it, added last; a
    leaf has cost an item. -/
inductive Leaf (p0 : P) (k : Nat) : Option Child × P → Prop
  | none {X : P} : Acts p0 X k → Leaf p0 k (none, X)
  | computed {X : P} (name : Item) : Acts p0 X k → Seen p0.toks name → X.toks.length < p0.toks.length →
      Leaf p0 k (some (.computed (bstr name.val)), X.addCheck (.curNsHasRelation X.ns.name name))
  | ttu {X : P} (rel : Item) (ssr : String) : Acts p0 X k → Seen p0.toks rel → X.toks.length < p0.toks.length →
      Leaf p0 k (some (.ttu (bstr rel.val) ssr),
        (X.addCheck (.allTypesHaveRelation X.ns.name rel ssr)).addCheck
          (.curNsHasRelation (X.addCheck (.allTypesHaveRelation X.ns.name rel ssr)).ns.name rel))

namespace Leaf
variable {p0 : P} {k : Nat} {res : Option Child × P}

theorem mono {k' : Nat} (h : Leaf p0 k res) (hk : k ≤ k') : Leaf p0 k' res := by
  cases h with
  | none h => exact .none (h.mono hk)
  | computed n h hs hl => exact .computed n (h.mono hk) hs hl
  | ttu r s h hs hl => exact .ttu r s (h.mono hk) hs hl

theorem acts (h : Leaf p0 k res) : Acts p0 res.2 k := by
  cases h with
  | none h => exact h
  | computed n h hs _ => exact h.addCheck _ hs
  | ttu r s h hs _ => exact .addCheck _ (.addCheck (.allTypesHaveRelation ..) h hs) hs

theorem cov (h : Leaf p0 k res) : ∀ c, res.1 = some c → CovChild res.2.checks res.2.ns.name c := by
  cases h with
  | none h => exact fun _ e => nomatch e
  | computed n h hs _ => exact (COk.computed h.ext n).2
  | ttu r s h hs _ => exact (COk.ttu h.ext r s).2

theorem lt (h : Leaf p0 k res) (hs : res.1.isSome) : res.2.toks.length < p0.toks.length := by
  cases h with
  | none h => cases hs
  | computed n h hs hl => exact hl
  | ttu r s h hs hl => exact hl

end Leaf

theorem parseComputedSubjectSet_leaf {p0 p : P} {k : Nat} (relation : Item) (h : Acts p0 p k)
    (hr : Seen p0.toks relation) : Leaf p0 (k + 5) (parseComputedSubjectSet relation p) := by
  unfold parseComputedSubjectSet
  extract_lets r
  split
  · exact .none (h.mtch _)
  · next hs => exact .computed _ (h.mtch _) hr (h.mtch_lt (by simpa [r, lits] using hs))

theorem parseTupleToSubjectSet_leaf {p0 p : P} {k : Nat} (relation : Item) (h : Acts p0 p k)
    (hr : Seen p0.toks relation) : Leaf p0 (k + 30) (parseTupleToSubjectSet relation p) := by
  -- the states after "(", after the argument, after "=> arg.verb", and after the property access
  let p1 := (p.mtch [.lit b!"("]).2.2
  let a1 := p1.mtchIf .parenLeft [.lit b!"(", .item, .lit b!")"]
  let a2 := if a1.1 = true then a1 else a1.2.2.mtch [.item]
  let r1 := a2.2.2.mtch [.lit b!"=>", .lit (cap a2.2.1 0).val, .lit b!".", .item]
  let pa := matchPropertyAccess .ident r1.2.2
  have h0 : Acts p0 p1 (k + 1) := h.mtch _
  -- from here on relative to `p1`: what follows does not put back what that `match` pulled
  have ha : Acts p1 a2.2.2 4 := by
    simp only [a2]
    split
    · exact (Acts.refl.mtchIf _ _).mono (by decide)
    · exact (Acts.refl.mtchIf _ _).mtch _
  have h1 : Acts p1 r1.2.2 8 := ha.mtch _
  have hpa : Acts p1 pa.2.2 13 := h1.mpa _ rfl
  fun_cases parseTupleToSubjectSet relation p with
  | case1 => exact .none (h0.mono (by omega))
  | case2 => exact .none ((h0.trans ha).mono (by omega))
  -- "related": no property access; the leaf
  | case3 => exact .none ((h0.trans hpa).mono (by omega))
  | case4 _ hr0 _ _ _ _ _ _ _ _ _ _ _ _ _ r2 =>
    have h2 : Acts p1 r2.2.2 23 := hpa.mtch _
    exact .ttu _ _ ((h0.trans h2).mono (by omega)) hr
      (Nat.lt_of_le_of_lt h2.len (h.mtch_lt (by simpa using hr0)))
  -- "permits": the same
  | case5 => exact .none ((h0.trans hpa).mono (by omega))
  | case6 _ hr0 _ _ _ _ _ _ _ _ _ _ _ _ _ _ r2 =>
    have h2 : Acts p1 r2.2.2 17 := hpa.mtch _
    exact .ttu _ _ ((h0.trans h2).mono (by omega)) hr
      (Nat.lt_of_le_of_lt h2.len (h.mtch_lt (by simpa using hr0)))
  | case7 => exact .none ((h0.trans (h1.addFatal _ _ (ha.cap_mtch _ _))).mono (by omega))
theorem parsePermissionExpression_leaf {p0 p : P} {k : Nat} (h : Acts p0 p k) :
    Leaf p0 (k + 40) (parsePermissionExpression p) := by
  have h0 : Acts p0 (p.mtch [.lit b!"this", .lit b!".", .item]).2.2 (k + 3) := h.mtch _
  have hpa := h0.mpa .item rfl
  have hn := seen_cap (h0.mpa_caps .item rfl).2 0
  fun_cases parsePermissionExpression p with
  | case1 => exact .none (h0.mono (by omega))
  | case2 => exact .none (hpa.mono (by omega))
  -- "related": no "."; "traverse"; "includes"; neither
  | case3 => exact .none ((hpa.mtch _ : Acts _ _ (k + 9)).mono (by omega))
  | case4 => exact (parseTupleToSubjectSet_leaf _ (hpa.mtch _ : Acts _ _ (k + 9)).next hn).mono (by omega)
  | case5 => exact (parseComputedSubjectSet_leaf _ (hpa.mtch _ : Acts _ _ (k + 9)).next hn).mono (by omega)
  | case6 _ _ _ _ _ _ _ r1 =>
    have h1 : Acts p0 r1.2.2 (k + 9) := hpa.mtch _
    exact .none ((h1.next.addFatal _ _ h1.seen_next).mono (by omega))
  -- "permits": no "(ctx)"; a computed subject set; another verb
  | case7 => exact .none ((hpa.mtch _ : Acts _ _ (k + 11)).mono (by omega))
  | case8 _ _ _ _ _ _ _ _ _ r1 hs =>
    exact .computed _ ((hpa.mtch _ : Acts _ _ (k + 11)).mono (by omega)) hn (hpa.mtch_lt (by simpa [r1, lits] using hs))
  | case9 => exact .none ((hpa.addFatal _ _ (h.cap_mtch _ _)).mono (by omega))
end Keto.Opl
