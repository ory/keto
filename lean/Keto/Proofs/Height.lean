/-
  For predicates indexed by a height bound (the derivations of Keto/Spec/Stratified.lean and their relatives):
  finitely many height-monotone facts have a common height; so has what is known of "the" rewrite of a
  relation (a lookup has at most one).
-/
import Keto.Model.Data

namespace Keto

theorem common_height {α : Type} (P : Nat → α → Prop)
    (mono : ∀ k k' x, k ≤ k' → P k x → P k' x) : ∀ (l : List α),
    (∀ x, x ∈ l → ∃ k, P k x) → ∃ K, ∀ x, x ∈ l → P K x
  | [], _ => ⟨0, fun _ h => by cases h⟩
  | a :: l, h => by
    obtain ⟨k1, h1⟩ := h a (List.mem_cons_self ..)
    obtain ⟨k2, h2⟩ := common_height P mono l (fun x hm => h x (List.mem_cons_of_mem _ hm))
    refine ⟨max k1 k2, fun x hm => ?_⟩
    cases hm with
    | head => exact mono _ _ _ (Nat.le_max_left ..) h1
    | tail _ hm' => exact mono _ _ _ (Nat.le_max_right ..) (h2 x hm')

theorem rewrite_height {P : Nat → Relation → Rewrite → Prop} (l : Lookup)
    (h : ∀ R rw, l = .rel R → R.rewrite = some rw → ∃ K, P K R rw) :
    ∃ K, ∀ R rw, l = .rel R → R.rewrite = some rw → P K R rw := by
  cases l with
  | bad => exact ⟨0, fun R rw h1 _ => by cases h1⟩
  | none => exact ⟨0, fun R rw h1 _ => by cases h1⟩
  | rel R =>
    cases hR : R.rewrite with
    | none =>
      refine ⟨0, fun R' rw' h1 h2 => ?_⟩
      cases h1
      rw [hR] at h2; cases h2
    | some rw =>
      obtain ⟨K, hK⟩ := h R rw rfl hR
      refine ⟨K, fun R' rw' h1 h2 => ?_⟩
      cases h1
      rw [hR] at h2; cases h2
      exact hK

end Keto
