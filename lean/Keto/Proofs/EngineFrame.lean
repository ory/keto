/-
  The heap of visited sets as the engine's calls see it: `vis c w` is the visited set the context `c`
  refers to, `Frame o w w'` says that between `w` and `w'` limit events and the heap only grew and no
  cell other than `o` changed; what `fresh`, `initVisited`, `checkAndAdd`, `World.lim`, `World.call` and
  `buildChildren` do in these terms.
-/
import Keto.Model.Engine
import Keto.Proofs.EngineGroupLoop

namespace Keto

/-- The visited set the context refers to (empty if it has not been created yet). -/
def vis (ctx : Ctx) (w : World) : List VKey :=
  match ctx.vref with
  | none => []
  | some r => w.heap.getD r []

def Valid (ctx : Ctx) (w : World) : Prop := ∀ r, ctx.vref = some r → r < w.heap.length

/-- From `w` to `w'`: limit events and the heap only grow; every cell that exists in `w`, except
    the cell `o`, is unchanged. -/
structure Frame (o : Option Nat) (w w' : World) : Prop where
  lim : w.limitHits ≤ w'.limitHits
  len : w.heap.length ≤ w'.heap.length
  keep : ∀ i, i < w.heap.length → o ≠ some i → w'.heap[i]? = w.heap[i]?

theorem Frame.refl (o : Option Nat) (w : World) : Frame o w w :=
  ⟨Nat.le_refl _, Nat.le_refl _, fun _ _ _ => rfl⟩

theorem Frame.of_heap_eq {o : Option Nat} {w w' : World} (hh : w'.heap = w.heap)
    (hl : w.limitHits ≤ w'.limitHits) : Frame o w w' :=
  ⟨hl, by rw [hh]; exact Nat.le_refl _, fun _ _ _ => by rw [hh]⟩

theorem Frame.trans {o : Option Nat} {w w1 w2 : World} (h1 : Frame o w w1) (h2 : Frame o w1 w2) :
    Frame o w w2 :=
  ⟨Nat.le_trans h1.lim h2.lim, Nat.le_trans h1.len h2.len,
    fun i hi ho => by rw [h2.keep i (Nat.lt_of_lt_of_le hi h1.len) ho, h1.keep i hi ho]⟩

theorem Frame.weaken {o : Option Nat} {w w' : World} (h : Frame none w w') : Frame o w w' :=
  ⟨h.lim, h.len, fun i hi _ => h.keep i hi (by intro e; cases e)⟩

/-- A step that only touches a cell created after `w`. -/
theorem Frame.trans_new {o : Option Nat} {w w1 w2 : World} {j : Nat} (h1 : Frame o w w1)
    (h2 : Frame (some j) w1 w2) (hj : w.heap.length ≤ j) : Frame o w w2 :=
  ⟨Nat.le_trans h1.lim h2.lim, Nat.le_trans h1.len h2.len,
    fun i hi ho => by
      rw [h2.keep i (Nat.lt_of_lt_of_le hi h1.len) (by intro e; cases e; omega), h1.keep i hi ho]⟩

theorem Frame.trans_none {o : Option Nat} {w w1 w2 : World} (h1 : Frame o w w1) (h2 : Frame none w1 w2) :
    Frame o w w2 :=
  h1.trans h2.weaken

theorem Valid.frame {c : Ctx} {o : Option Nat} {w w' : World} (hv : Valid c w) (h : Frame o w w') : Valid c w' :=
  fun r hr => Nat.lt_of_lt_of_le (hv r hr) h.len

theorem vis_of_none {c : Ctx} {w : World} (h : c.vref = none) : vis c w = [] := by
  unfold vis; rw [h]

theorem vis_frame {c : Ctx} {w w' : World} (h : Frame none w w') (hv : Valid c w) : vis c w' = vis c w := by
  unfold vis
  cases hc : c.vref with
  | none => rfl
  | some r => simp only [List.getD_eq_getElem?_getD, h.keep r (hv r hc) (fun e => nomatch e)]

@[simp] theorem World.lim_heap (w : World) : w.lim.heap = w.heap := rfl
@[simp] theorem World.lim_limitHits (w : World) : w.lim.limitHits = w.limitHits + 1 := rfl
@[simp] theorem World.call_heap (E : Env) (w : World) : (w.call E).2.heap = w.heap := rfl
@[simp] theorem World.call_limitHits (E : Env) (w : World) : (w.call E).2.limitHits = w.limitHits := rfl

theorem Frame.ofLim (o : Option Nat) (w : World) : Frame o w w.lim :=
  Frame.of_heap_eq rfl (Nat.le_succ _)

theorem Frame.ofCall (o : Option Nat) (E : Env) (w : World) : Frame o w (w.call E).2 :=
  Frame.of_heap_eq rfl (Nat.le_refl _)

theorem fresh_vref (w : World) : (fresh w).1.vref = some w.heap.length := rfl

theorem fresh_frame (w : World) : Frame none w (fresh w).2 where
  lim := Nat.le_refl _
  len := by simp [fresh]
  keep := fun i hi _ => by
    show (w.heap ++ [[]])[i]? = _
    rw [List.getElem?_append_left hi]

theorem fresh_valid (w : World) : Valid (fresh w).1 (fresh w).2 := by
  intro r hr
  rw [fresh_vref] at hr
  cases hr
  simp [fresh]

theorem fresh_vis (w : World) : vis (fresh w).1 (fresh w).2 = [] := by
  unfold vis
  simp [fresh, List.getD_eq_getElem?_getD]

@[simp] theorem fresh_limitHits (w : World) : (fresh w).2.limitHits = w.limitHits := rfl

theorem initVisited_ok (c : Ctx) (w : World) (hv : Valid c w) :
    (∃ r, (initVisited c w).1.vref = some r) ∧ Valid (initVisited c w).1 (initVisited c w).2 := by
  unfold initVisited
  cases hc : c.vref with
  | some r => exact ⟨⟨r, hc⟩, hv⟩
  | none => exact ⟨⟨_, fresh_vref w⟩, fresh_valid w⟩

theorem checkAndAdd_spec (c : Ctx) (s : VKey) (w : World) (r : Nat) (hc : c.vref = some r)
    (hr : r < w.heap.length) :
    let vw := checkAndAdd c s w
    (vw.1 = true → s ∈ vis c w ∧ vw.2 = w) ∧
    (vw.1 = false → s ∉ vis c w ∧ vis c vw.2 = s :: vis c w ∧ Frame (some r) w vw.2 ∧
      vw.2.limitHits = w.limitHits) := by
  unfold checkAndAdd
  have hvis : vis c w = w.heap.getD r [] := by unfold vis; rw [hc]
  simp only [hc, Option.getD_some]
  split
  · next hcont =>
    refine ⟨fun _ => ⟨?_, rfl⟩, fun h => Bool.noConfusion h⟩
    rw [hvis]
    simpa using hcont
  · next hcont =>
    refine ⟨fun h => Bool.noConfusion h, fun _ => ⟨?_, ?_, ?_, rfl⟩⟩
    · rw [hvis]
      simpa using hcont
    · unfold vis
      rw [hc]
      simp only [List.getD_eq_getElem?_getD, List.getElem?_set_self hr, Option.getD_some]
    · refine ⟨Nat.le_refl _, by simp, fun i _ hne => ?_⟩
      rw [List.getElem?_set_ne]
      intro e
      exact hne (by rw [e])

theorem lim_zero_of_frame {o : Option Nat} {w w' : World} (h : Frame o w w') (hz : w'.limitHits = 0) :
    w.limitHits = 0 :=
  Nat.le_zero.1 (hz ▸ h.lim)

/-- Building the operands of a rewrite: `R ch lh th` is what is known about the thunk `th` of
    operand `ch` when `lh` limit events have happened (monotone in `lh`). -/
theorem buildChildren_ok (f : Child → Ctx → World → Thunk × World) (isAnd : Bool)
    (R : Child → Nat → Thunk → Prop) (hR : ∀ ch lh lh' th, R ch lh th → lh ≤ lh' → R ch lh' th) (c : Ctx) :
    ∀ (cs : List Child) (w : World), Valid c w →
      (∀ ch, ch ∈ cs → ∀ w, Valid c w →
        Frame none w (f ch (if isAnd then fresh w else (c, w)).1 (if isAnd then fresh w else (c, w)).2).2 ∧
        R ch (f ch (if isAnd then fresh w else (c, w)).1 (if isAnd then fresh w else (c, w)).2).2.limitHits
          (f ch (if isAnd then fresh w else (c, w)).1 (if isAnd then fresh w else (c, w)).2).1) →
      Frame none w (buildChildren f isAnd cs c w).2 ∧
      All2 (fun ch th => R ch (buildChildren f isAnd cs c w).2.limitHits th) cs (buildChildren f isAnd cs c w).1
  | [], w, _, _ => ⟨Frame.refl _ _, .nil⟩
  | ch :: cs, w, hv, h => by
    have h1 := h ch (List.mem_cons_self ..) w hv
    have ih := buildChildren_ok f isAnd R hR c cs
      (f ch (if isAnd then fresh w else (c, w)).1 (if isAnd then fresh w else (c, w)).2).2
      (hv.frame h1.1) (fun ch' hc' => h ch' (List.mem_cons_of_mem _ hc'))
    exact ⟨h1.1.trans ih.1, .cons (hR _ _ _ _ h1.2 ih.1.lim) ih.2⟩

end Keto
