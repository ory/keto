/-
  Lemmas about the specification side of C10 (Keto/Spec/TSBool.lean): where no parenthesis level mixes `||`
  and `&&`, the left-to-right reading `evalL2R` is the TypeScript value `evalTS`.
-/
import Keto.Spec.TSBool

namespace Keto.TS

variable {α : Type}

theorem prec_two_isAnd (e : E α) (h : prec e = 2) : isAnd e = true := by
  cases e <;> simp [prec] at h <;> rfl

theorem value_start_operand (x : Bool) : (St.start.operand x).value = x := rfl
theorem value_pend_and_operand (b x : Bool) : ((St.pend true b).operand x).value = (b && x) := rfl
theorem value_pend_or_operand (b x : Bool) : ((St.pend false b).operand x).value = (b || x) := rfl

/-- An operand of `&&` / `||` as `l2r` reads it: a level of its own where `render` wraps it in parentheses
    (`c`), read on from `s` otherwise. -/
def l2rOperand (v : α → Bool) (c : Prop) [Decidable c] (s : St) (e : E α) : St :=
  if c then s.operand (l2r v .start e).value else l2r v s e

theorem l2r_and (v : α → Bool) (s : St) (l r : E α) : l2r v s (.and l r) =
    l2rOperand v (prec r < 3) (.pend true (l2rOperand v (prec l < 2) s l).value) r := rfl

theorem l2r_or (v : α → Bool) (s : St) (l r : E α) : l2r v s (.or l r) =
    l2rOperand v (prec r < 2) (.pend false (l2rOperand v (prec l < 1) s l).value) r := rfl

theorem l2rOperand_start_value {v : α → Bool} {c : Prop} [Decidable c] {e : E α}
    (ih : (l2r v .start e).value = evalTS v e ∧ (3 ≤ prec e → ∀ s, l2r v s e = s.operand (evalTS v e))) :
    (l2rOperand v c .start e).value = evalTS v e := by
  unfold l2rOperand
  split
  · rw [value_start_operand, ih.1]
  · exact ih.1

theorem l2rOperand_eq {v : α → Bool} {c : Prop} [Decidable c] {s : St} {e : E α}
    (ih : (l2r v .start e).value = evalTS v e ∧ (3 ≤ prec e → ∀ s, l2r v s e = s.operand (evalTS v e)))
    (h : c ∨ 3 ≤ prec e) : l2rOperand v c s e = s.operand (evalTS v e) := by
  unfold l2rOperand
  split
  · rw [ih.1]
  · exact ih.2 (h.resolve_left ‹_›) s

/-- Second conjunct: an operand binding tighter than `&&` acts on any reader state as one operand — the
    strengthening the `and` / `or` cases need. -/
theorem l2r_unmixed (v : α → Bool) : ∀ e : E α, mixed e = false →
    (l2r v .start e).value = evalTS v e ∧ (3 ≤ prec e → ∀ s, l2r v s e = s.operand (evalTS v e))
  | .atom a, _ => ⟨rfl, fun _ _ => rfl⟩
  | .group e, h | .not e, h => by
    have ih := l2r_unmixed v e (by simpa [mixed] using h)
    refine ⟨?_, fun _ s => ?_⟩
    · simp only [l2r, evalTS, value_start_operand, ih.1]
    · simp only [l2r, evalTS, ih.1]
  | .and l r, h => by
    simp only [mixed, Bool.or_eq_false_iff] at h
    have il := l2r_unmixed v l h.1
    have ir := l2r_unmixed v r h.2
    refine ⟨?_, fun hp => by simp [prec] at hp⟩
    rw [l2r_and, l2rOperand_start_value il, l2rOperand_eq ir (by omega), value_pend_and_operand]
    rfl
  | .or l r, h => by
    simp only [mixed, Bool.or_eq_false_iff] at h
    have il := l2r_unmixed v l h.1.2
    have ir := l2r_unmixed v r h.2
    refine ⟨?_, fun hp => by simp [prec] at hp⟩
    have h2 : prec r ≠ 2 := fun h2 => by rw [prec_two_isAnd r h2] at h; exact nomatch h.1.1.2
    rw [l2r_or, l2rOperand_start_value il, l2rOperand_eq ir (by omega), value_pend_or_operand]
    rfl

theorem evalL2R_unmixed (v : α → Bool) (e : E α) (h : mixed e = false) : evalL2R v e = evalTS v e :=
  (l2r_unmixed v e h).1

end Keto.TS
