/-
  What the parser model (Keto/Model/Parser.lean) keeps while it runs, as relations between parser states:

  * positions: every error and every deferred check points at an item of the input or at one of the two 0:0 items,
    tokens are only consumed and no fuel ran out (`G`, `Inv`);
  * steps: `Cost`, and the potential `phi` that every loop iteration pays for with the item it consumes;
  * coverage: every type of every relation and every leaf of every rewrite is covered by a deferred check
    (`CovTy` … `Cov`), kept by `Ext` below the declaration level, by `Step` inside a class body and by `Top` overall.
-/
import Keto.Spec.WellFormed
import Keto.Proofs.OplMatch

namespace Keto.Opl
open Keto

/-- A property of byte ranges that holds of 0:0 (the range of `brokenItem` / `Item.zero`). -/
structure Pos where
  Q : Nat → Nat → Prop
  zero : Q 0 0

def Pos.inRange (n : Nat) : Pos := ⟨fun a b => a ≤ b ∧ b ≤ n, ⟨Nat.le_refl _, Nat.zero_le _⟩⟩

/-- Used when only token consumption matters. -/
def Pos.any : Pos := ⟨fun _ _ => True, trivial⟩

def okI (N : Pos) (i : Item) : Prop := N.Q i.start i.stop
def okE (N : Pos) (e : PErr) : Prop := N.Q e.start e.stop

def okC (N : Pos) : TypeCheck → Prop
  | .nsExists a => okI N a
  | .nsHasRelation a b => okI N a ∧ okI N b
  | .curNsHasRelation _ a => okI N a
  | .allTypesHaveRelation _ a _ => okI N a

/-- Everything the parser state holds points into the input. -/
structure G (N : Pos) (p : P) : Prop where
  toks : ∀ i ∈ p.toks, okI N i
  errs : ∀ e ∈ p.errors, okE N e
  checks : ∀ c ∈ p.checks, okC N c

/-- `p'` is reached from `p` by parser actions: goodness is kept, tokens are only
    consumed, no fuel ran out. -/
structure Inv (N : Pos) (p p' : P) : Prop where
  g : G N p → G N p'
  len : p'.toks.length ≤ p.toks.length
  panic : p'.panic = p.panic

theorem Inv.refl (N : Pos) (p : P) : Inv N p p := ⟨id, Nat.le_refl _, rfl⟩

theorem Inv.trans {N : Pos} {p q r : P} (h1 : Inv N p q) (h2 : Inv N q r) : Inv N p r :=
  ⟨fun hg => h2.g (h1.g hg), Nat.le_trans h2.len h1.len, h2.panic.trans h1.panic⟩

theorem Inv.frame {N : Pos} {p q q' : P} (h : Inv N p q) (ht : q'.toks = q.toks) (he : q'.errors = q.errors)
    (hc : q'.checks = q.checks) (hp : q'.panic = q.panic) : Inv N p q' :=
  ⟨fun hg => ⟨ht ▸ (h.g hg).toks, he ▸ (h.g hg).errs, hc ▸ (h.g hg).checks⟩, ht ▸ h.len, hp ▸ h.panic⟩

theorem Inv.tick {N : Pos} {p q : P} (h : Inv N p q) : Inv N p q.tick := h.frame rfl rfl rfl rfl

theorem next_peek (p : P) : p.next.1 = p.peek := by rw [next_eq]; rfl

theorem G.seen {N : Pos} {p : P} (hg : G N p) {i : Item} (hi : Seen p.toks i) : okI N i :=
  hi.elim (· ▸ N.zero) (·.elim (· ▸ N.zero) (hg.toks i))

theorem G.peek {N : Pos} {p : P} (hg : G N p) : okI N p.peek := hg.seen (seen_headD _)

theorem G.next {N : Pos} {p : P} (hg : G N p) : G N p.next.2 ∧ okI N p.next.1 := by
  rw [next_peek, next_eq]
  exact ⟨⟨fun i hi => hg.toks i (List.mem_of_mem_drop hi), hg.errs, hg.checks⟩, hg.peek⟩

theorem adv_len (p : P) (k : Nat) : (p.adv k).toks.length ≤ p.toks.length := by
  rw [adv_toks, List.length_drop]
  exact Nat.sub_le ..

theorem Inv.next {N : Pos} {p q : P} (h : Inv N p q) : Inv N p q.next.2 := by
  rw [next_eq]
  exact ⟨fun hg => next_eq q ▸ (h.g hg).next.1, Nat.le_trans (adv_len q 1) h.len, h.panic⟩

theorem Inv.addFatal {N : Pos} {p q : P} (h : Inv N p q) (i : Item) (k : ErrKind) (hi : G N p → okI N i) :
    Inv N p (q.addFatal i k) :=
  ⟨fun hg => ⟨(h.g hg).toks, List.forall_mem_cons.mpr ⟨hi hg, (h.g hg).errs⟩, (h.g hg).checks⟩, h.len, h.panic⟩

theorem Inv.addCheck {N : Pos} {p q : P} (h : Inv N p q) (c : TypeCheck) (hc : G N p → okC N c) :
    Inv N p (q.addCheck c) :=
  ⟨fun hg => ⟨(h.g hg).toks, (h.g hg).errs, List.forall_mem_cons.mpr ⟨hc hg, (h.g hg).checks⟩⟩, h.len, h.panic⟩

theorem Inv.addRelation {N : Pos} {p q : P} (h : Inv N p q) (r : Relation) : Inv N p (q.addRelation r) :=
  h.frame rfl rfl rfl rfl

/-- The fuel a loop needs: a fatal state makes no further iteration. -/
def need (p : P) : Nat := p.toks.length + (if p.fatal then 0 else 1)

theorem need_le (p : P) : need p ≤ p.toks.length + 1 := by
  unfold need; split <;> omega

theorem need_fatal (p : P) (h : p.fatal = true) : need p = p.toks.length := by
  unfold need; simp [h]

theorem need_nonfatal (p : P) (h : ¬p.fatal = true) : need p = p.toks.length + 1 := by
  unfold need; simp [h]

/-- The error item stands for the end of the input. -/
theorem next_len_of_item (p : P) (h : p.next.1.typ ≠ .error) : p.next.2.toks.length + 1 = p.toks.length := by
  rw [next_eq] at h ⊢
  cases ht : p.toks with
  | nil => rw [ht] at h; exact absurd rfl h
  | cons i r => simp [P.adv, ht]

theorem peek_tick (p : P) : p.tick.peek = p.peek := rfl

theorem typ_ne_error_of_eq {i : Item} {t : ItemType} (h : (i.typ == t) = true) (ht : t ≠ .error) : i.typ ≠ .error := by
  have : i.typ = t := by simpa using h
  rw [this]; exact ht

theorem typ_ne_error_of_or {i : Item} {a b : ItemType} (h : (i.typ == a || i.typ == b) = true) (ha : a ≠ .error)
    (hb : b ≠ .error) : i.typ ≠ .error := by
  rcases Bool.or_eq_true _ _ |>.mp h with h | h
  · exact typ_ne_error_of_eq h ha
  · exact typ_ne_error_of_eq h hb

/-- `p'` is reached from `p` with at most `c` steps, consuming only. -/
structure Cost (p p' : P) (c : Nat) : Prop where
  steps : p'.steps ≤ p.steps + c
  len : p'.toks.length ≤ p.toks.length

theorem Cost.refl (p : P) : Cost p p 0 := ⟨Nat.le_refl _, Nat.le_refl _⟩
theorem Cost.mono {p q : P} {c c' : Nat} (h : Cost p q c) (hc : c ≤ c') : Cost p q c' :=
  ⟨by have := h.steps; omega, h.len⟩
theorem Cost.tick {p q : P} {c : Nat} (h : Cost p q c) : Cost p q.tick (c + 1) :=
  ⟨by have := h.steps; show q.steps + 1 ≤ _; omega, h.len⟩

theorem Cost.next {p q : P} {c : Nat} (h : Cost p q c) : Cost p q.next.2 (c + 1) := by
  rw [next_eq]
  exact ⟨Nat.add_le_add_right h.steps 1, Nat.le_trans (adv_len q 1) h.len⟩

-- The parser reaches `addErr` only through `addFatal`.
theorem Cost.addErr {p q : P} {c : Nat} (h : Cost p q c) (i : Item) (k : ErrKind) : Cost p (q.addErr i k) c := ⟨h.steps, h.len⟩
theorem Cost.addFatal {p q : P} {c : Nat} (h : Cost p q c) (i : Item) (k : ErrKind) : Cost p (q.addFatal i k) c :=
  ⟨h.steps, h.len⟩
theorem Cost.addCheck {p q : P} {c : Nat} (h : Cost p q c) (t : TypeCheck) : Cost p (q.addCheck t) c := ⟨h.steps, h.len⟩
theorem Cost.addRelation {p q : P} {c : Nat} (h : Cost p q c) (r : Relation) : Cost p (q.addRelation r) c := ⟨h.steps, h.len⟩

/-- The potential: steps so far plus 100 per item still to come. -/
def phi (p : P) : Nat := p.steps + 100 * p.toks.length

theorem phi_setPanic (p : P) : phi p.setPanic = phi p := rfl

theorem Cost.phi {p q : P} {c : Nat} (h : Cost p q c) : phi q ≤ phi p + c := by
  have := h.steps; have := h.len
  unfold Opl.phi
  omega

theorem phi_consumed {p q : P} {c : Nat} (h : Cost p q c) (hl : q.toks.length + 1 ≤ p.toks.length) :
    phi q + 100 ≤ phi p + c := by
  have := h.steps
  unfold Opl.phi
  omega

theorem phi_addFatal (p : P) (i : Item) (k : ErrKind) : phi (p.addFatal i k) = phi p := rfl

theorem computedNamesL_append : ∀ a b : List Child,
    Child.computedNamesL (a ++ b) = Child.computedNamesL a ++ Child.computedNamesL b
  | [], b => by simp [Child.computedNamesL]
  | c :: a, b => by simp [Child.computedNamesL, computedNamesL_append a b]

theorem ttuNamesL_append : ∀ a b : List Child,
    Child.ttuNamesL (a ++ b) = Child.ttuNamesL a ++ Child.ttuNamesL b
  | [], b => by simp [Child.ttuNamesL]
  | c :: a, b => by simp [Child.ttuNamesL, ttuNamesL_append a b]

mutual
/-- Flattening nested rewrites with the same operator keeps every `g` on child lists that is put together with `mul`
    from one value `f c` per child, where `f` of a nested rewrite with that operator is `g` of its children (the
    names in it; its meaning under `||` or `&&`). -/
theorem simplifyChildren_fold {β : Type} {op : Op} {g : List Child → β} {f : Child → β} {mul : β → β → β}
    (happ : ∀ a b, g (a ++ b) = mul (g a) (g b)) (hone : ∀ c, g [c] = f c) (hrw : ∀ cs, f (.rewrite op cs) = g cs) :
    ∀ cs, g (simplifyChildren op cs) = g cs
  | [] => by rw [simplifyChildren]
  | c :: cs => by
    rw [simplifyChildren, happ, simplifyChild_fold happ hone hrw c, simplifyChildren_fold happ hone hrw cs, ← hone,
      ← happ]
    rfl
theorem simplifyChild_fold {β : Type} {op : Op} {g : List Child → β} {f : Child → β} {mul : β → β → β}
    (happ : ∀ a b, g (a ++ b) = mul (g a) (g b)) (hone : ∀ c, g [c] = f c) (hrw : ∀ cs, f (.rewrite op cs) = g cs) :
    ∀ c, g (simplifyChild op c) = f c
  | .rewrite op' cs => by
    rw [simplifyChild]
    split
    · next h =>
      rw [Bool.and_eq_true, beq_iff_eq] at h
      rw [simplifyChildren_fold happ hone hrw cs, h.1, hrw]
    · exact hone _
  | .computed _ | .ttu _ _ | .invert _ => hone _
end

theorem computedNamesL_simplifyChildren (op : Op) (cs : List Child) :
    Child.computedNamesL (simplifyChildren op cs) = Child.computedNamesL cs :=
  simplifyChildren_fold computedNamesL_append (fun _ => List.append_nil _) (fun _ => rfl) cs

theorem computedNamesL_simplifyChild (op : Op) : ∀ c : Child,
    Child.computedNamesL (simplifyChild op c) = Child.computedNames c :=
  simplifyChild_fold computedNamesL_append (fun _ => List.append_nil _) fun _ => rfl

theorem ttuNamesL_simplifyChildren (op : Op) (cs : List Child) :
    Child.ttuNamesL (simplifyChildren op cs) = Child.ttuNamesL cs :=
  simplifyChildren_fold ttuNamesL_append (fun _ => List.append_nil _) (fun _ => rfl) cs

theorem ttuNamesL_simplifyChild (op : Op) : ∀ c : Child,
    Child.ttuNamesL (simplifyChild op c) = Child.ttuNames c :=
  simplifyChild_fold ttuNamesL_append (fun _ => List.append_nil _) fun _ => rfl

/-- A declared type is covered by a deferred check: `T[]` by `checkNamespaceExists(T)`,
    `SubjectSet<T, R>` by `checkNamespaceHasRelation(T, R)`. -/
def CovTy (cs : List TypeCheck) (ty : RelType) : Prop :=
  (ty.rel = "" ∧ ∃ i, TypeCheck.nsExists i ∈ cs ∧ bstr i.val = ty.ns) ∨
  (∃ a b, TypeCheck.nsHasRelation a b ∈ cs ∧ bstr a.val = ty.ns ∧ bstr b.val = ty.rel)

/-- The leaves of (a part of) a rewrite of namespace `cur` are covered by deferred checks: a computed
    subject set `r` by `checkCurrentNamespaceHasRelation(cur, r)`, a tuple-to-subject-set `rel`/`crel` by
    `checkAllRelationsTypesHaveRelation(cur, rel, crel)` and `checkCurrentNamespaceHasRelation(cur, rel)`. -/
structure CovChild (cs : List TypeCheck) (cur : String) (ch : Child) : Prop where
  computed : ∀ r ∈ ch.computedNames, ∃ i, TypeCheck.curNsHasRelation cur i ∈ cs ∧ bstr i.val = r
  ttu : ∀ q ∈ ch.ttuNames, ∃ i, TypeCheck.allTypesHaveRelation cur i q.2 ∈ cs ∧
    TypeCheck.curNsHasRelation cur i ∈ cs ∧ bstr i.val = q.1

def CovRel (cs : List TypeCheck) (cur : String) (R : Relation) : Prop :=
  (∀ ty ∈ R.types, CovTy cs ty) ∧ ∀ rw, R.rewrite = some rw → CovChild cs cur rw.toChild

def CovNs (cs : List TypeCheck) (N : Namespace) : Prop := ∀ R ∈ N.relations, CovRel cs N.name R

/-- Every parsed namespace and the namespace being parsed are covered by the deferred checks. -/
structure Cov (p : P) : Prop where
  nss : ∀ N ∈ p.nss, CovNs p.checks N
  ns : CovNs p.checks p.ns

theorem CovTy.mono {cs cs' : List TypeCheck} (h : ∀ c ∈ cs, c ∈ cs') {ty : RelType} (ht : CovTy cs ty) :
    CovTy cs' ty := by
  rcases ht with ⟨h1, i, hi, h2⟩ | ⟨a, b, hab, h1, h2⟩
  · exact Or.inl ⟨h1, i, h _ hi, h2⟩
  · exact Or.inr ⟨a, b, h _ hab, h1, h2⟩

theorem CovChild.mono {cs cs' : List TypeCheck} (h : ∀ c ∈ cs, c ∈ cs') {cur : String} {ch : Child}
    (hc : CovChild cs cur ch) : CovChild cs' cur ch := by
  refine ⟨fun r hr => ?_, fun q hq => ?_⟩
  · obtain ⟨i, h1, h2⟩ := hc.computed r hr
    exact ⟨i, h _ h1, h2⟩
  · obtain ⟨i, h1, h2, h3⟩ := hc.ttu q hq
    exact ⟨i, h _ h1, h _ h2, h3⟩

theorem CovRel.mono {cs cs' : List TypeCheck} (h : ∀ c ∈ cs, c ∈ cs') {cur : String} {R : Relation}
    (hc : CovRel cs cur R) : CovRel cs' cur R :=
  ⟨fun ty hty => (hc.1 ty hty).mono h, fun rw hrw => (hc.2 rw hrw).mono h⟩

theorem CovNs.mono {cs cs' : List TypeCheck} (h : ∀ c ∈ cs, c ∈ cs') {N : Namespace} (hc : CovNs cs N) : CovNs cs' N :=
  fun R hR => (hc R hR).mono h

/-- `CovChild` only depends on the names. -/
theorem CovChild.of_names {cs : List TypeCheck} {cur : String} {ch : Child}
    (hc : ∀ r ∈ ch.computedNames, ∃ ch', CovChild cs cur ch' ∧ r ∈ ch'.computedNames)
    (ht : ∀ q ∈ ch.ttuNames, ∃ ch', CovChild cs cur ch' ∧ q ∈ ch'.ttuNames) : CovChild cs cur ch := by
  refine ⟨fun r hr => ?_, fun q hq => ?_⟩
  · obtain ⟨ch', h1, h2⟩ := hc r hr
    exact h1.computed r h2
  · obtain ⟨ch', h1, h2⟩ := ht q hq
    exact h1.ttu q h2

theorem covChild_nil (cs : List TypeCheck) (cur : String) : CovChild cs cur nilRewrite :=
  ⟨fun r hr => by simp [nilRewrite, Child.computedNames, Child.computedNamesL] at hr,
   fun q hq => by simp [nilRewrite, Child.ttuNames, Child.ttuNamesL] at hq⟩

theorem CovChild.invert {cs : List TypeCheck} {cur : String} {ch : Child} (h : CovChild cs cur ch) :
    CovChild cs cur (.invert ch) :=
  ⟨fun r hr => h.computed r (by simpa [Child.computedNames] using hr),
   fun q hq => h.ttu q (by simpa [Child.ttuNames] using hq)⟩

theorem CovChild.op {cs : List TypeCheck} {cur : String} {r : Rewrite} (h : CovChild cs cur r.toChild) (op : Op) :
    CovChild cs cur (Rewrite.toChild ⟨op, [r.toChild]⟩) :=
  ⟨fun x hx => h.computed x (by simpa [Rewrite.toChild, Child.computedNames, Child.computedNamesL] using hx),
   fun q hq => h.ttu q (by simpa [Rewrite.toChild, Child.ttuNames, Child.ttuNamesL] using hq)⟩

theorem CovChild.simplify {cs : List TypeCheck} {cur : String} {r : Rewrite} (h : CovChild cs cur r.toChild) :
    CovChild cs cur (Rewrite.toChild ⟨r.op, simplifyChildren r.op r.children⟩) :=
  ⟨fun x hx => h.computed x (by
      simpa [Rewrite.toChild, Child.computedNames, computedNamesL_simplifyChildren] using hx),
   fun q hq => h.ttu q (by
      simpa [Rewrite.toChild, Child.ttuNames, ttuNamesL_simplifyChildren] using hq)⟩

theorem computedNames_addChild (root : Option Rewrite) (c : Child) :
    (addChild root c).toChild.computedNames =
      (match root with | none => [] | some r => r.toChild.computedNames) ++ c.computedNames := by
  cases root with
  | none => cases c <;> simp [addChild, Rewrite.toChild, Child.computedNames, Child.computedNamesL]
  | some r => simp [addChild, Rewrite.toChild, Child.computedNames, computedNamesL_append, Child.computedNamesL]

theorem ttuNames_addChild (root : Option Rewrite) (c : Child) :
    (addChild root c).toChild.ttuNames =
      (match root with | none => [] | some r => r.toChild.ttuNames) ++ c.ttuNames := by
  cases root with
  | none => cases c <;> simp [addChild, Rewrite.toChild, Child.ttuNames, Child.ttuNamesL]
  | some r => simp [addChild, Rewrite.toChild, Child.ttuNames, ttuNamesL_append, Child.ttuNamesL]

theorem CovChild.addChild {cs : List TypeCheck} {cur : String} {root : Option Rewrite} {c : Child}
    (hr : ∀ r, root = some r → CovChild cs cur r.toChild) (hc : CovChild cs cur c) :
    CovChild cs cur (addChild root c).toChild := by
  refine ⟨fun x hx => ?_, fun q hq => ?_⟩
  · rw [computedNames_addChild] at hx
    cases root with
    | none => exact hc.computed x hx
    | some r => exact (List.mem_append.mp hx).elim ((hr r rfl).computed x) (hc.computed x)
  · rw [ttuNames_addChild] at hq
    cases root with
    | none => exact hc.ttu q hq
    | some r => exact (List.mem_append.mp hq).elim ((hr r rfl).ttu q) (hc.ttu q)

/-- `q` is reached from `p` by parser actions that leave the namespaces alone and only add checks. -/
structure Ext (p q : P) : Prop where
  ns : q.ns = p.ns
  nss : q.nss = p.nss
  checks : ∀ c ∈ p.checks, c ∈ q.checks

theorem Ext.refl (p : P) : Ext p p := ⟨rfl, rfl, fun _ h => h⟩

theorem Ext.tick {p q : P} (h : Ext p q) : Ext p q.tick := ⟨h.ns, h.nss, h.checks⟩

theorem Ext.next {p q : P} (h : Ext p q) : Ext p q.next.2 := next_eq q ▸ ⟨h.ns, h.nss, h.checks⟩

-- The parser reaches `addErr` only through `addFatal`.
theorem Ext.addErr {p q : P} (h : Ext p q) (i : Item) (k : ErrKind) : Ext p (q.addErr i k) := ⟨h.ns, h.nss, h.checks⟩
theorem Ext.addFatal {p q : P} (h : Ext p q) (i : Item) (k : ErrKind) : Ext p (q.addFatal i k) :=
  ⟨h.ns, h.nss, h.checks⟩
theorem Ext.addCheck {p q : P} (h : Ext p q) (c : TypeCheck) : Ext p (q.addCheck c) :=
  ⟨h.ns, h.nss, fun c' hc' => List.mem_cons_of_mem _ (h.checks c' hc')⟩


/-- The result of parsing a permission check: the leaf is covered by the checks added. -/
def COk (p0 : P) (res : Option Child × P) : Prop :=
  Ext p0 res.2 ∧ ∀ c, res.1 = some c → CovChild res.2.checks res.2.ns.name c


/-- The loop variable `root` is covered. -/
def RootOk (p : P) (root : Option Rewrite) : Prop := ∀ r, root = some r → CovChild p.checks p.ns.name r.toChild

theorem COk.computed {p0 X : P} (h : Ext p0 X) (name : Item) :
    COk p0 (some (.computed (bstr name.val)), X.addCheck (.curNsHasRelation X.ns.name name)) := by
  refine ⟨h.addCheck _, fun c hc => ?_⟩
  cases hc
  refine ⟨fun r hr => ?_, fun q hq => ?_⟩
  · have : r = bstr name.val := by simpa [Child.computedNames] using hr
    subst this
    exact ⟨name, List.mem_cons_self, rfl⟩
  · simp [Child.ttuNames] at hq

theorem COk.ttu {p0 X : P} (h : Ext p0 X) (relation : Item) (ssr : String) :
    COk p0 (some (.ttu (bstr relation.val) ssr),
      (X.addCheck (.allTypesHaveRelation X.ns.name relation ssr)).addCheck
        (.curNsHasRelation (X.addCheck (.allTypesHaveRelation X.ns.name relation ssr)).ns.name relation)) := by
  refine ⟨(h.addCheck _).addCheck _, fun c hc => ?_⟩
  cases hc
  refine ⟨fun r hr => ?_, fun q hq => ?_⟩
  · simp [Child.computedNames] at hr
  · have : q = (bstr relation.val, ssr) := by simpa [Child.ttuNames] using hq
    subst this
    exact ⟨relation, List.mem_cons_of_mem _ List.mem_cons_self, List.mem_cons_self, rfl⟩

theorem RootOk.none (p : P) : RootOk p none := fun r hr => by cases hr

theorem RootOk.addChild {p : P} {root : Option Rewrite} {c : Child} (hr : RootOk p root)
    (hc : CovChild p.checks p.ns.name c) : RootOk p (some (addChild root c)) := by
  intro r h
  cases h
  exact CovChild.addChild hr hc

theorem RootOk.op {p : P} {r : Rewrite} (hr : RootOk p (some r)) (op : Op) : RootOk p (some ⟨op, [r.toChild]⟩) := by
  intro r' h
  cases h
  exact (hr r rfl).op op

/-- `q` is reached from `p` inside one class body: the name of the current namespace and the parsed
    namespaces are kept, checks are only added, and the current namespace stays covered. -/
structure Step (p q : P) : Prop where
  name : q.ns.name = p.ns.name
  nss : q.nss = p.nss
  checks : ∀ c ∈ p.checks, c ∈ q.checks
  cov : CovNs p.checks p.ns → CovNs q.checks q.ns

theorem Step.refl (p : P) : Step p p := ⟨rfl, rfl, fun _ h => h, id⟩

theorem Step.ext {p0 p q : P} (h0 : Step p0 p) (h : Ext p q) : Step p0 q :=
  ⟨by rw [h.ns]; exact h0.name, h.nss.trans h0.nss, fun c hc => h.checks c (h0.checks c hc),
   fun hc => by rw [h.ns]; exact (h0.cov hc).mono h.checks⟩

theorem Step.addRelation {p0 q : P} (h0 : Step p0 q) (R : Relation) (hR : CovRel q.checks q.ns.name R) :
    Step p0 (q.addRelation R) := by
  refine ⟨h0.name, h0.nss, h0.checks, fun hc R' hR' => ?_⟩
  have hR'' : R' ∈ q.ns.relations ∨ R' = R := by simpa [P.addRelation] using hR'
  rcases hR'' with h | h
  · exact h0.cov hc R' h
  · subst h; exact hR

theorem covRel_types {cs : List TypeCheck} {cur name : String} {types : List RelType}
    (h : ∀ ty ∈ types, CovTy cs ty) : CovRel cs cur ⟨name, types, none⟩ :=
  ⟨h, fun rw hrw => by cases hrw⟩

theorem simplifyExpression_some {root : Option Rewrite} {rw : Rewrite} (h : simplifyExpression root = some rw) :
    ∃ r, root = some r ∧ rw = ⟨r.op, simplifyChildren r.op r.children⟩ := by
  cases root with
  | none => simp [simplifyExpression] at h
  | some r => exact ⟨r, rfl, by simpa [simplifyExpression] using h.symm⟩

/-- `q` is reached from `p` by the parser: checks are only added and coverage is kept. -/
structure Top (p q : P) : Prop where
  checks : ∀ c ∈ p.checks, c ∈ q.checks
  cov : Cov p → Cov q

theorem Top.trans {p q r : P} (h1 : Top p q) (h2 : Top q r) : Top p r :=
  ⟨fun c h => h2.checks c (h1.checks c h), fun h => h2.cov (h1.cov h)⟩

theorem Step.top {p q : P} (h : Step p q) : Top p q :=
  ⟨h.checks, fun hc => ⟨fun N hN => (hc.nss N (by rw [← h.nss]; exact hN)).mono h.checks, h.cov hc.ns⟩⟩

end Keto.Opl
