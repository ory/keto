/-
  Fact tie for C02 (see Keto/Proofs/FactsTie.lean): where the width limit applies.
-/
import Keto.Generated.Facts

namespace Keto.FactsTie
open Keto.Facts

/-- The width limit is read in exactly one function of the engines: the subject-set expansion of a direct
    check (`Keto.build`, case `.expand`: the width test on the expansion's results). No other traversal -
    not the tuple-to-subject-set listing, not expand - is cut by it. -/
def expectedWidthSites : List (String × String × String) := [
  ("internal/check/engine.go", "Engine.checkExpandSubject", "MaxReadWidth")]

theorem widthSites_tie : widthSites = expectedWidthSites := rfl

end Keto.FactsTie
