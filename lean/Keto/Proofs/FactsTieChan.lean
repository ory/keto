/-
  Fact tie for C15 (see Keto/Proofs/FactsTie.lean): channel capacities of package `check`.
-/
import Keto.Generated.Facts

namespace Keto.FactsTie
open Keto.Facts

/-- Every result channel of package `check` that a goroutine sends on after its
    receiver may have stopped listening has capacity 1 (C15). -/
def expectedChanSites : List (String × String × String) := [
  ("internal/check/engine.go", "Engine.CheckRelationTuple", "1"),
  ("internal/check/rewrites.go", "Engine.checkInverted", "1"),
  ("internal/check/binop.go", "or", "1"),
  ("internal/check/binop.go", "and", "1"),
  ("internal/check/checkgroup/definitions.go", "WithEdge", "1"),
  ("internal/check/checkgroup/concurrent_checkgroup.go", "NewConcurrent", "0"),
  ("internal/check/checkgroup/concurrent_checkgroup.go", "NewConcurrent", "0"),
  ("internal/check/checkgroup/concurrent_checkgroup.go", "NewConcurrent", "0"),
  ("internal/check/checkgroup/concurrent_checkgroup.go", "NewConcurrent", "1"),
  ("internal/check/checkgroup/concurrent_checkgroup.go", "concurrentCheckgroup.startConsumer", "1")
]

theorem chanSites_tie : chanSites = expectedChanSites := rfl

end Keto.FactsTie
