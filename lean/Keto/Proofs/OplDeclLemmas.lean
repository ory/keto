/-
  C10 helper lemmas: what `parseRelated` does on a rendered relation declaration.
-/
import Keto.Proofs.OplExprLemmas

namespace Keto.Opl
open Keto

/-! ### what the statements of C10 and C11 are written in -/

def tColon := tk .opColon b!":"
def tSemi := tk .semicolon b!";"
def tPipe := tk .typeUnion b!"|"
def tLT := tk .angledLeft b!"<"
def tGT := tk .angledRight b!">"
def tLBrace := tk .braceLeft b!"{"
def tRBrace := tk .braceRight b!"}"

/-- A member of a type union: `T` or `SubjectSet<N, "r">` (the tokens naming things are
    arbitrary items: the parser takes them with `*item`). -/
inductive TyRef where
  | plain (t : Item)
  | sset (ns rel : Item)
  deriving Repr, Inhabited

def TyRef.toks : TyRef → List Item
  | .plain t => [t]
  | .sset ns rel => [tId b!"SubjectSet", tLT, ns, tComma, rel, tGT]

/-- The `ast.RelationType` the text denotes. -/
def TyRef.ty : TyRef → RelType
  | .plain t => ⟨bstr t.val, ""⟩
  | .sset ns rel => ⟨bstr ns.val, bstr rel.val⟩

def TyRef.check : TyRef → TypeCheck
  | .plain t => .nsExists t
  | .sset ns rel => .nsHasRelation ns rel

/-- A plain type name is not the word `SubjectSet`. -/
def TyRef.wf : TyRef → Prop
  | .plain t => valIs t b!"SubjectSet" = false
  | .sset _ _ => True

/-- `A | B | …` -/
def unionToks : List TyRef → List Item
  | [] => []
  | [t] => t.toks
  | t :: ts => t.toks ++ tPipe :: unionToks ts

/-- How the array type of a relation is written. -/
inductive DeclForm where
  | bare    -- `T[]`, `SubjectSet<N, "r">[]`
  | paren   -- `(A | B)[]`
  | array   -- `Array<A | B>`
  deriving Repr, DecidableEq, Inhabited

/-- `name: <types>` in one of the spellings, optionally followed by `,`. -/
structure Decl where
  name : Item
  types : List TyRef
  form : DeclForm
  comma : Bool
  deriving Repr, Inhabited

def Decl.typeToks (d : Decl) : List Item :=
  match d.form with
  | .bare => unionToks d.types ++ [tLB, tRB]
  | .paren => tLP :: (unionToks d.types ++ [tRP, tLB, tRB])
  | .array => tId b!"Array" :: tLT :: (unionToks d.types ++ [tGT])

def Decl.toks (d : Decl) : List Item := d.name :: tColon :: (d.typeToks ++ optComma d.comma)

/-- The `ast.Relation` the declaration denotes. -/
def Decl.relation (d : Decl) : Relation := ⟨bstr d.name.val, d.types.map TyRef.ty, none⟩

/-- Side conditions: the name lexes as an identifier or a string literal; at least one type;
    a plain type name is none of the words `SubjectSet` / `Array` and not `(`; `T[]` has one
    type; `Array<…>` is not followed by `,` (finding F-array-comma). -/
def Decl.wf (d : Decl) : Prop :=
  isName d.name ∧ d.types ≠ [] ∧ (∀ t ∈ d.types, t.wf) ∧
  match d.form with
  | .bare => ∃ t, d.types = [t] ∧ (∀ x, t = .plain x → valIs x b!"Array" = false ∧ x.typ ≠ .parenLeft)
  | .paren => True
  | .array => d.comma = false

theorem mtch_checks (p : P) (pats : List Pat) : (p.mtch pats).2.2.checks = p.checks := by
  rw [mtch_eq]
  split
  · rfl
  · show (p.fin _ (matchL pats p.toks [] 0).err).checks = p.checks
    cases (matchL pats p.toks [] 0).err <;> rfl

theorem matchSubjectSet_on (a b : Item) (p : P) (l : List Item) (k : Nat) (hf : p.fatal = false) :
    matchSubjectSet (onToks p (tLT :: a :: tComma :: b :: tGT :: l) k) =
      (⟨bstr a.val, bstr b.val⟩, (onToks p l (k + 5)).addCheck (.nsHasRelation a b)) := by
  simp [matchSubjectSet, mtch_on, hf, matchL, fin_on, cap, valIs_tk, tLT, tGT, tComma]

/-- The right side is the rest of the loop body (the three ways on after a member) in the model's own words:
    `typeUnion_spec` rewrites with it and decides the `if`s from the next token. -/
theorem typeUnion_step (endTok : ItemType) (n : Nat)
    (acc : List RelType) (p : P) (t : TyRef) (hw : t.wf) (tl : List Item) (hf : p.fatal = false)
    (ht : p.toks = t.toks ++ tl) :
    ∃ p1 : P, p1.toks = tl.tail ∧ ParseFrame p p1 ∧ p1.checks = t.check :: p.checks ∧
      parseTypeUnion endTok (n+1) acc p =
        if (tl.headD brokenItem).typ = endTok then (acc ++ [t.ty], p1)
        else if (tl.headD brokenItem).typ = .typeUnion then parseTypeUnion endTok n (acc ++ [t.ty]) p1
        else parseTypeUnion endTok n (acc ++ [t.ty]) (p1.addFatal (tl.headD brokenItem) .expectedUnion) := by
  refine ⟨(onToks p tl.tail (t.toks.length + 2)).addCheck t.check, rfl, (ParseFrame.onToks p hf _ _).addCheck _, rfl, ?_⟩
  conv => lhs; rw [eq_onToks_zero ht, parseTypeUnion]
  cases t with
  | plain t =>
    have hw' : valIs t b!"SubjectSet" = false := hw
    simp [tick_on, mtch_on, next_on, next_addCheck, onToks_fatal, hf, matchL, MRes.ok, fin_on, cap, hw', TyRef.toks, TyRef.ty,
      TyRef.check]
  | sset a b =>
    simp [tick_on, mtch_on, next_on, next_addCheck, onToks_fatal, hf, matchL, MRes.ok, fin_on, matchSubjectSet_on, cap,
      TyRef.toks, TyRef.ty, TyRef.check, valIs_tk, tId]

/-- The checks of the members come out reversed: `checks` is kept latest first. -/
theorem typeUnion_spec (endTok : ItemType) (hend : endTok = .angledRight ∨ endTok = .parenRight) :
    ∀ (ts : List TyRef), ts ≠ [] → (∀ t ∈ ts, t.wf) → ∀ (n : Nat), ts.length ≤ n →
    ∀ (acc : List RelType) (p : P) (endItem : Item) (rest : List Item), endItem.typ = endTok → p.fatal = false →
      p.toks = unionToks ts ++ endItem :: rest →
      ∃ p' : P, p'.toks = rest ∧ ParseFrame p p' ∧ p'.checks = (ts.map TyRef.check).reverse ++ p.checks ∧
        parseTypeUnion endTok n acc p = (acc ++ ts.map TyRef.ty, p')
  | [], h, _, _, _, _, _, _, _, _, _, _ => absurd rfl h
  | [t], _, hw, n, hn, acc, p, endItem, rest, he, hf, ht => by
    obtain ⟨n', rfl⟩ : ∃ n', n = n' + 1 := Nat.exists_eq_add_one.mpr hn
    obtain ⟨p1, h1, h2, hc, h3⟩ := typeUnion_step endTok n' acc p t (hw t (by simp)) (endItem :: rest) hf ht
    refine ⟨p1, h1, h2, by simpa using hc, ?_⟩
    rw [h3]
    simp [he]
  | t :: t' :: more, _, hw, n, hn, acc, p, endItem, rest, he, hf, ht => by
    obtain ⟨n', rfl⟩ : ∃ n', n = n' + 1 := Nat.exists_eq_add_one.mpr (Nat.lt_of_lt_of_le (Nat.succ_pos _) hn)
    have ht' : p.toks = t.toks ++ (tPipe :: (unionToks (t' :: more) ++ endItem :: rest)) := by
      rw [ht]; simp [unionToks]
    obtain ⟨p1, h1, h2, hc, h3⟩ := typeUnion_step endTok n' acc p t (hw t (by simp)) _ hf ht'
    obtain ⟨p2, g1, g2, gc, g3⟩ := typeUnion_spec endTok hend (t' :: more) (by simp) (fun x hx => hw x (by simp [hx]))
      n' (Nat.le_of_succ_le_succ hn) (acc ++ [t.ty]) p1 endItem rest he h2.1 (by rw [h1]; rfl)
    refine ⟨p2, g1, h2.trans g2, ?_, ?_⟩
    · rw [gc, hc]; simp
    · rw [h3, g3]
      have hne : ¬ (ItemType.typeUnion = endTok) := by rcases hend with h | h <;> simp [h]
      simp [tPipe, hne]

/-- The state `p'` after the declaration `d` was read from `p`, `rest` being what follows it. -/
structure DeclPost (p p' : P) (d : Decl) (rest : List Item) : Prop where
  toks : p'.toks = rest
  fatal : p'.fatal = false
  errors : p'.errors = p.errors
  panic : p'.panic = p.panic
  nss : p'.nss = p.nss
  ns : p'.ns = { p.ns with relations := p.ns.relations ++ [d.relation] }
  checks : p'.checks = (d.types.map TyRef.check).reverse ++ p.checks

theorem optComma_step (q : P) (c : Bool) (rest : List Item) (hf : q.fatal = false)
    (ht : q.toks = tLB :: tRB :: (optComma c ++ rest))
    (hc : c = false → valIs (rest.headD brokenItem) b!"," = false) :
    ∃ q' : P, q'.toks = rest ∧ ParseFrame q q' ∧
      (q.mtch [.lit b!"[", .lit b!"]", .opt [b!","]]).2.2 = q' := by
  refine ⟨onToks q rest (2 + (optComma c).length), rfl, ParseFrame.onToks q hf _ _, ?_⟩
  conv => lhs; rw [eq_onToks_zero ht]
  simp [mtch_on, hf, matchL, optL_comma c rest hc, fin_on, valIs_tk, tLB, tRB]
  rw [Nat.add_comm 2]
  simp

theorem next_mk (x : Item) (xs : List Item) (nss : List Namespace) (ns : Namespace) (errors : List PErr) (fatal : Bool)
    (checks : List TypeCheck) (steps : Nat) (panic : Bool) :
    P.next ⟨x :: xs, nss, ns, errors, fatal, checks, steps, panic⟩ =
      (x, ⟨xs, nss, ns, errors, fatal, checks, steps + 1, panic⟩) := rfl

theorem related_decl (d : Decl) (hw : d.wf) (n : Nat) (hn : d.types.length ≤ n) (p : P) (rest : List Item)
    (hf : p.fatal = false) (ht : p.toks = d.toks ++ rest)
    (hc : d.comma = false → valIs (rest.headD brokenItem) b!"," = false) :
    ∃ p' : P, DeclPost p p' d rest ∧ relatedLoop (n+1) p = relatedLoop n p' := by
  obtain ⟨name, types, form, comma⟩ := d
  obtain ⟨(hname : isName name), hne, hwt, hform⟩ := hw
  have hnm : (name.typ == .identifier || name.typ == .stringLiteral) = true ∧ (name.typ == .semicolon) = false ∧
      (name.typ == .braceRight) = false := by
    rcases hname with h | h <;> simp [h]
  -- what is left once the loop has reached the state `q` after the declaration
  have done : ∀ q : P, q.toks = rest → ParseFrame p q → q.checks = (types.map TyRef.check).reverse ++ p.checks →
      relatedLoop (n+1) p = relatedLoop n (q.addRelation ⟨bstr name.val, types.map TyRef.ty, none⟩) →
      ∃ p' : P, DeclPost p p' ⟨name, types, form, comma⟩ rest ∧ relatedLoop (n+1) p = relatedLoop n p' :=
    fun q h1 h2 h3 h4 => ⟨q.addRelation ⟨bstr name.val, types.map TyRef.ty, none⟩,
      ⟨h1, h2.fatal, h2.errors, h2.panic, h2.nss, by simp [P.addRelation, h2.ns, Decl.relation], h3⟩, h4⟩
  cases form with
  | paren =>
    obtain ⟨p2, g1, g2, gc, g3⟩ := typeUnion_spec .parenRight (Or.inr rfl) types hne hwt n hn []
      (onToks p (unionToks types ++ tRP :: tLB :: tRB :: (optComma comma ++ rest)) 4) tRP
      (tLB :: tRB :: (optComma comma ++ rest)) rfl hf rfl
    obtain ⟨q', k1, k2, k3⟩ := optComma_step p2 comma rest g2.1 g1 hc
    refine done q' k1 ((ParseFrame.onToks p hf _ 4).trans (g2.trans k2)) (by rw [← k3, mtch_checks, gc]; rfl) ?_
    conv => lhs; rw [eq_onToks_zero ht, relatedLoop]
    simp [tick_on, next_on, mtch_on, onToks_fatal, hf, matchL, MRes.ok, fin_on, Decl.toks, Decl.typeToks, hnm, g3, k3, valIs_tk, tLP, tColon]
  | array =>
    have hcomma : comma = false := hform
    subst hcomma
    obtain ⟨p2, g1, g2, gc, g3⟩ := typeUnion_spec .angledRight (Or.inl rfl) types hne hwt n hn []
      (onToks p (unionToks types ++ tGT :: rest) 5) tGT rest rfl hf rfl
    refine done p2 g1 ((ParseFrame.onToks p hf _ 5).trans g2) (by rw [gc]; rfl) ?_
    conv => lhs; rw [eq_onToks_zero ht, relatedLoop]
    simp [tick_on, next_on, mtch_on, onToks_fatal, hf, matchL, MRes.ok, fin_on, Decl.toks, Decl.typeToks, hnm, g3, valIs_tk, tId, tLT, tColon, optComma]
  | bare =>
    obtain ⟨t, hty, hplain⟩ := hform
    subst hty
    have hwt' := hwt t (by simp)
    cases t with
    | plain x =>
      obtain ⟨hx1, hx2⟩ := hplain x rfl
      have hx3 : valIs x b!"SubjectSet" = false := hwt'
      have hx2' : (x.typ == ItemType.parenLeft) = false := by simpa using hx2
      obtain ⟨q', k1, k2, k3⟩ := optComma_step
        ((onToks p (tLB :: tRB :: (optComma comma ++ rest)) 4).addCheck (.nsExists x)) comma rest hf rfl hc
      refine done q' k1 (((ParseFrame.onToks p hf _ _).addCheck _).trans k2) (by rw [← k3, mtch_checks]; rfl) ?_
      conv => lhs; rw [eq_onToks_zero ht, relatedLoop]
      simp [tick_on, next_on, mtch_on, onToks_fatal, hf, matchL, MRes.ok, fin_on, Decl.toks, Decl.typeToks, unionToks,
        TyRef.toks, TyRef.ty, hnm, hx1, hx2', hx3, k3, valIs_tk, tColon]
    | sset a b =>
      obtain ⟨q', k1, k2, k3⟩ := optComma_step
        ((onToks p (tLB :: tRB :: (optComma comma ++ rest)) 9).addCheck (.nsHasRelation a b)) comma rest hf rfl hc
      refine done q' k1 (((ParseFrame.onToks p hf _ _).addCheck _).trans k2) (by rw [← k3, mtch_checks]; rfl) ?_
      conv => lhs; rw [eq_onToks_zero ht, relatedLoop]
      simp [tick_on, next_on, mtch_on, onToks_fatal, hf, matchL, MRes.ok, fin_on, matchSubjectSet_on, Decl.toks,
        Decl.typeToks, unionToks, TyRef.toks, TyRef.ty, hnm, k3, valIs_tk, tId, tColon]

end Keto.Opl
