/-
  The three group loops of the engine (`relLoop`, `ttuRows`, `expandLoop`) are one loop, `gRun`: run
  every element's check in turn and add its result to the group (an element that is skipped adds
  `notMember`, which a group ignores).  The page loop `ttuPages` is an `or` over the pages.  So an
  invariant of the engine needs one lemma about `gRun` and one about `orRun`, not one per loop.
  The thunks `build` makes inline get a name here too: `pageRun` (one page of a listing) and `scRun`
  (the union shortcut), so that each invariant has one lemma about each.
-/
import Keto.Model.Engine

namespace Keto

/-- Pointwise relation of two lists (core has no `Forall₂`). -/
inductive All2 {α β : Type} (R : α → β → Prop) : List α → List β → Prop where
  | nil : All2 R [] []
  | cons {a b as bs} : R a b → All2 R as bs → All2 R (a :: as) (b :: bs)

theorem All2.imp {α β γ : Type} {R : α → β → Prop} {R' : α → γ → Prop} {f : β → γ}
    (himp : ∀ a b, R a b → R' a (f b)) : ∀ {as bs}, All2 R as bs → All2 R' as (bs.map f)
  | _, _, .nil => .nil
  | _, _, .cons h t => .cons (himp _ _ h) (All2.imp himp t)

theorem All2.right {α β : Type} {R : α → β → Prop} :
    ∀ {as bs}, All2 R as bs → ∀ b, b ∈ bs → ∃ a, a ∈ as ∧ R a b
  | _, _, .nil, _, hb => by cases hb
  | _, _, .cons (a := a) (as := as) h t, b, hb => by
    cases hb with
    | head => exact ⟨a, List.mem_cons_self .., h⟩
    | tail _ hb' =>
      obtain ⟨a', ha', hr⟩ := All2.right t b hb'
      exact ⟨a', List.mem_cons_of_mem _ ha', hr⟩

theorem All2.nil_iff {α β : Type} {R : α → β → Prop} {as : List α} {bs : List β} (h : All2 R as bs) :
    bs = [] ↔ as = [] := by
  cases h <;> simp

theorem All2.of_map {α β : Type} {R : α → β → Prop} (g : α → β) :
    ∀ (l : List α), (∀ a, a ∈ l → R a (g a)) → All2 R l (l.map g)
  | [], _ => .nil
  | a :: l, h =>
    .cons (h a (List.mem_cons_self ..)) (All2.of_map g l (fun a' ha' => h a' (List.mem_cons_of_mem _ ha')))

/-- A group only ever holds a decisive result. -/
def GDec (g : Option Res) : Prop := ∀ x, g = some x → x.decisive = true

theorem GDec.none : GDec none := fun _ h => by cases h

theorem GDec.gAdd {g : Option Res} (r : Res) (h : GDec g) : GDec (gAdd g r) := by
  unfold Keto.gAdd
  cases g with
  | some x => exact h
  | none =>
    simp only
    split
    · next hd => intro x hx; cases hx; exact hd
    · exact GDec.none

theorem gAdd_eq_none {g : Option Res} {r : Res} (h : gAdd g r = none) : g = none ∧ r.decisive = false := by
  unfold gAdd at h
  cases g with
  | some x => cases h
  | none =>
    simp only at h
    split at h
    · cases h
    · next hd => exact ⟨rfl, by simpa using hd⟩

theorem gResult_nondec {g : Option Res} (hg : GDec g) (h : (gResult g).decisive = false) : g = none := by
  cases g with
  | none => rfl
  | some x =>
    have := hg x rfl
    simp only [gResult, Option.getD] at h
    rw [this] at h
    cases h

theorem Res.eq_mk {r : Res} {m : Memb} {e : Option ErrKind} (hm : r.memb = m) (he : r.err = e) : r = ⟨m, e⟩ := by
  cases r
  cases hm
  cases he
  rfl

theorem Res.decisive_eq_false {r : Res} : r.decisive = false ↔ r.err = none ∧ r.memb ≠ .isMember := by
  obtain ⟨m, e⟩ := r
  cases m <;> cases e <;> simp [Res.decisive]

theorem invertRes_err_eq (r : Res) : (invertRes r).err = r.err := by
  obtain ⟨m, e⟩ := r
  cases e <;> cases m <;> rfl

theorem invertRes_err (r : Res) : (invertRes r).err.isSome → (invertRes r).memb ≠ .isMember := by
  unfold invertRes
  split
  · intro _ h; cases h
  · next hnone =>
    split
    · intro h; cases h
    · intro h; cases h
    · intro h; rw [hnone] at h; cases h

theorem invertRes_isMember {r : Res} (h : (invertRes r).memb = .isMember) : r.decisive = false := by
  obtain ⟨m, e⟩ := r
  cases m <;> cases e <;> simp [invertRes, Res.decisive] at h ⊢

theorem invertRes_nondec {r : Res} (h : (invertRes r).decisive = false) :
    (r.memb = .isMember ∧ (invertRes r).memb = .notMember) ∨ (r.decisive = false ∧ r.memb ≠ .notMember) := by
  obtain ⟨m, e⟩ := r
  cases m <;> cases e <;> simp [invertRes, Res.decisive] at h ⊢

theorem decisive_error (k : ErrKind) : (Res.error k).decisive = true := rfl

theorem decisive_isM : Res.isM.decisive = true := rfl

/-- Run the checks `fs` in turn, adding each result to the sequential checkgroup `g`. -/
def gRun : List (Ctx → World → Res × World) → Option Res → Ctx → World → Option Res × World
  | [], g, _, w => (g, w)
  | f :: fs, g, c, w => gRun fs (gAdd g (f c w).1) c (f c w).2

theorem gAdd_nm (g : Option Res) : gAdd g Res.nm = g := by
  cases g <;> rfl

theorem relLoop_eq (rec : String → Ctx → World → Res × World) :
    ∀ rs g c w, relLoop rec rs g c w = gRun (rs.map rec) g c w
  | [], _, _, _ => rfl
  | r :: rs, g, c, w => by simp only [relLoop, List.map_cons, gRun, relLoop_eq rec rs]

/-- The check of one row of a tuple-to-subject-set page. -/
def rowRun (rec : VKey → Ctx → World → Res × World) (t : Tuple) : Ctx → World → Res × World :=
  match t.sub with
  | .set n o r => rec (n, o, r)
  | .id _ => fun _ w => (Res.nm, w)

theorem ttuRows_eq (rec : VKey → Ctx → World → Res × World) :
    ∀ ts g c w, ttuRows rec ts g c w = gRun (ts.map (rowRun rec)) g c w
  | [], _, _, _ => rfl
  | t :: ts, g, c, w => by
    cases h : t.sub <;> simp only [ttuRows, List.map_cons, gRun, rowRun, h, ttuRows_eq rec ts, gAdd_nm]

/-- One round of `checkExpandSubject`: a subject set that is already marked is skipped. -/
def expandStep (rec : Tuple → Ctx → World → Res × World) (sub : Subject) (s : VKey) : Ctx → World → Res × World :=
  fun c w =>
    if (checkAndAdd c s w).1 then (Res.nm, (checkAndAdd c s w).2)
    else rec ⟨s.1, s.2.1, s.2.2, sub⟩ c (checkAndAdd c s w).2

theorem expandLoop_eq (rec : Tuple → Ctx → World → Res × World) (sub : Subject) :
    ∀ ss g c w, expandLoop rec sub ss g c w = gRun (ss.map (expandStep rec sub)) g c w
  | [], _, _, _ => rfl
  | s :: ss, g, c, w => by
    simp only [expandLoop, List.map_cons, gRun, expandStep]
    split <;> simp only [expandLoop_eq rec sub ss, gAdd_nm]

/-- The width cut of `expandRun` (`results[:maxWidth-1]` when there are more than `maxWidth`). -/
theorem mem_of_mem_widthCut {α : Type} {b : Bool} {n : Nat} {l : List α} {x : α}
    (h : x ∈ (if b = true then l.take n else l)) : x ∈ l := by
  split at h
  · exact List.mem_of_mem_take h
  · exact h

theorem length_widthCut_le {α : Type} (l : List α) (W : Nat) :
    (if decide (l.length > W) = true then l.take (W - 1) else l).length ≤ min W l.length := by
  split
  · rw [List.length_take]
    omega
  · next h =>
    simp only [decide_eq_true_eq] at h
    omega

theorem gRun_gdec : ∀ (fs : List (Ctx → World → Res × World)) (g : Option Res) (c : Ctx) (w : World),
    GDec g → GDec (gRun fs g c w).1
  | [], _, _, _, h => h
  | _ :: fs, _, c, _, h => gRun_gdec fs _ c _ (h.gAdd _)

/-- One page of the tuple-to-subject-set listing: the storage call, then its rows. -/
def pageRun (E : Env) (rec : VKey → Ctx → World → Res × World) (p : List Tuple) : Thunk := fun c w =>
  if (w.call E).1 then (Res.error .storage, (w.call E).2)
  else (gResult (ttuRows rec p none c (w.call E).2).1, (ttuRows rec p none c (w.call E).2).2)

theorem ttuPages_some (E : Env) (rec : VKey → Ctx → World → Res × World) (x : Res) (c : Ctx) (w : World) :
    ∀ ps, ttuPages E rec ps (some x) c w = (some x, w)
  | [] => rfl
  | _ :: _ => rfl

theorem ttuPages_eq (E : Env) (rec : VKey → Ctx → World → Res × World) (c : Ctx) :
    ∀ ps w, (gResult (ttuPages E rec ps none c w).1, (ttuPages E rec ps none c w).2)
      = orRun (ps.map (pageRun E rec)) c w
  | [], _ => rfl
  | p :: ps, w => by
    simp only [ttuPages, List.map_cons, orRun, pageRun]
    by_cases hf : (w.call E).1 = true
    · simp only [hf, if_true]
      rfl
    · simp only [hf, Bool.false_eq_true, if_false]
      have hd : GDec (ttuRows rec p none c (w.call E).2).1 := by
        rw [ttuRows_eq]; exact gRun_gdec _ _ _ _ GDec.none
      cases hg : (ttuRows rec p none c (w.call E).2).1 with
      | none => exact ttuPages_eq E rec c ps _
      | some x =>
        -- a group only holds decisive results, so `orRun` stops exactly where the page loop does
        rw [hg] at hd
        simp only [ttuPages_some, gResult, Option.getD_some, hd x rfl, if_true]

theorem ttuPages_fst (E : Env) (rec : VKey → Ctx → World → Res × World) (ps : List (List Tuple)) (c : Ctx)
    (w : World) : gResult (ttuPages E rec ps none c w).1 = (orRun (ps.map (pageRun E rec)) c w).1 :=
  congrArg Prod.fst (ttuPages_eq E rec c ps w)

theorem ttuPages_snd (E : Env) (rec : VKey → Ctx → World → Res × World) (ps : List (List Tuple)) (c : Ctx)
    (w : World) : (ttuPages E rec ps none c w).2 = (orRun (ps.map (pageRun E rec)) c w).2 :=
  congrArg Prod.snd (ttuPages_eq E rec c ps w)

/-- The query of the union shortcut (`checkSubjectSetRewrite`): is the subject stored directly on one
    of the candidate relations `comps` (in strict mode: of those without a rewrite)? -/
def scHit (E : Env) (t : Tuple) (comps : List String) : Bool :=
  let rels := comps.filter (fun r => !(E.strict && hasRewriteRel E.cfg t.ns r))
  !rels.isEmpty && E.T.any (fun x => x.ns == t.ns && x.obj == t.obj && x.sub == t.sub && rels.contains x.rel)

/-- The union shortcut, the first operand of an `or` with computed-subject-set children: one storage
    call for the query, then the candidates one by one.  In `build` it is this thunk with the eager
    `checkIsAllowed` of the candidate as `rec` (by `rfl`). -/
def scRun (E : Env) (t : Tuple) (comps : List String) (rec : String → Ctx → World → Res × World) : Thunk :=
  fun c w =>
    if (w.call E).1 then (Res.error .storage, (w.call E).2)
    else if scHit E t comps then (Res.isM, (w.call E).2)
    else (gResult (relLoop rec comps none c (w.call E).2).1, (relLoop rec comps none c (w.call E).2).2)

theorem scHit_mem {E : Env} {t : Tuple} {comps : List String} (h : scHit E t comps = true) :
    ∃ r, r ∈ comps ∧ (⟨t.ns, t.obj, r, t.sub⟩ : Tuple) ∈ E.T := by
  simp only [scHit, Bool.and_eq_true, List.any_eq_true, beq_iff_eq, List.contains_iff_mem, List.mem_filter] at h
  obtain ⟨_, x, hx, ⟨⟨⟨h1, h2⟩, h3⟩, h4, _⟩⟩ := h
  refine ⟨x.rel, h4, ?_⟩
  rw [← h1, ← h2, ← h3]
  exact hx

end Keto
