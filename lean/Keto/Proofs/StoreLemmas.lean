/-
  Requests against the store model (Keto/Model/Store.lean: statements, transactions, handlers, histories).
  `Op.plan` reads a request the way the handlers do (`Mapper.FromTuple`, `FromQuery`, the per-delta checks) and
  says, without looking at the database, what it amounts to: an error status, or a `Req` — the strings to map,
  the rows to insert and the relationships to delete, one transaction over statements of its network.
  `step_write` ties `step` to it; `step_db` is the shape all requests share (the database before, or all
  statements of the plan applied); refinement, the table invariant, the frame between networks and "spares a
  row" are each said once about `Req`, all-or-nothing once about `planned`.  `plan_cases` is the one place
  where the requests are enumerated for facts about their plans (`plan_shards`, `plan_spares`, `plan_err`); a
  write whose plan is an error is answered with it (`step_rejects`).
  The table by itself: Keto/Proofs/StoreTable.lean.
-/
import Keto.Proofs.StoreTable

namespace Keto.Store

def execAll : List Stmt → DB → DB
  | [], w => w
  | st :: rest, w => execAll rest (st.exec w)

theorem execAll_append (a b : List Stmt) (w : DB) : execAll (a ++ b) w = execAll b (execAll a w) := by
  induction a generalizing w with
  | nil => rfl
  | cons x xs ih => simp only [List.cons_append, execAll]; exact ih _

theorem runStmts_cases (fail : Oracle) (sts : List Stmt) (k : Nat) (w : DB) :
    runStmts fail k sts w = none ∨ runStmts fail k sts w = some (execAll sts w) := by
  fun_induction runStmts fail k sts w with
  | case1 => exact .inr rfl
  | case2 => exact .inl rfl
  | case3 _ _ _ _ _ ih => exact ih

theorem runStmts_noFail (sts : List Stmt) (k : Nat) (w : DB) :
    runStmts noFail k sts w = some (execAll sts w) := by
  fun_induction runStmts noFail k sts w with
  | case1 => rfl
  | case2 _ _ _ _ hf => cases hf
  | case3 _ _ _ _ _ ih => exact ih

theorem runStmts_none_iff (fail : Oracle) (sts : List Stmt) (k : Nat) (w : DB) :
    runStmts fail k sts w = none ↔
      ∃ i, ∃ h : i < sts.length, fail (k + i) sts[i] (execAll (sts.take i) w) = true := by
  fun_induction runStmts fail k sts w with
  | case1 => simp
  | case2 k st rest w hf => exact iff_of_true rfl ⟨0, Nat.zero_lt_succ _, hf⟩
  | case3 k st rest w hf ih =>
    rw [ih]
    constructor
    · rintro ⟨i, hi, h⟩
      exact ⟨i + 1, Nat.succ_lt_succ hi, by rwa [Nat.add_assoc, Nat.add_comm 1] at h⟩
    · rintro ⟨i, hi, h⟩
      cases i with
      | zero => exact absurd h hf
      | succ j => exact ⟨j, Nat.lt_of_succ_lt_succ hi, by rwa [Nat.add_assoc, Nat.add_comm 1]⟩

theorem transaction_cases (fail : Oracle) (sts : List Stmt) (db : DB) :
    transaction fail sts db = (false, db) ∨ transaction fail sts db = (true, execAll sts db) := by
  unfold transaction
  rcases runStmts_cases fail sts 0 db with h | h <;> rw [h]
  · left; rfl
  · right; rfl

theorem transaction_noFail (sts : List Stmt) (db : DB) :
    transaction noFail sts db = (true, execAll sts db) := by
  unfold transaction
  rw [runStmts_noFail]

theorem execAll_insert (cs : List (List Row)) (db : DB) :
    execAll (cs.map .insertRows) db = { db with rows := insertChunks cs db.rows } := by
  induction cs generalizing db with
  | nil => rfl
  | cons c cs ih => simp only [List.map_cons, execAll, Stmt.exec, insertChunks]; rw [ih]

theorem execAll_delete (nid : Nat) (cs : List (List Tuple)) (db : DB) :
    execAll (cs.map (.deleteRows nid)) db = { db with rows := deleteChunks nid cs db.rows } := by
  induction cs generalizing db with
  | nil => rfl
  | cons c cs ih => simp only [List.map_cons, execAll, Stmt.exec, deleteChunks]; rw [ih]

theorem execAll_maps_rows (cs : List (List (Nat × Nat))) (db : DB) :
    (execAll (cs.map .insertMaps) db).rows = db.rows := by
  induction cs generalizing db with
  | nil => rfl
  | cons c cs ih => simp only [List.map_cons, execAll, Stmt.exec]; rw [ih]

theorem execAll_transact (cI cD : Nat) (hI : 0 < cI) (hD : 0 < cD) (nid : Nat) (ins : List (Tuple × Nat))
    (del : List Tuple) (db : DB) :
    execAll (writeStmts cI nid ins ++ deleteStmts cD nid del) db =
      { db with rows := deleteStmt nid del (insertRows (mkRows nid ins) db.rows) } := by
  rw [execAll_append, writeStmts, deleteStmts, execAll_insert, execAll_delete]
  show { db with rows := deleteC cD nid del (writeC cI nid ins db.rows) } = _
  rw [deleteC_eq cD hD, writeC_eq cI hI]

/-- What an accepted request asks of the persister. -/
inductive Req where
  | transact (strs : List Nat) (ins : List (Tuple × Nat)) (del : List Tuple)
  | deleteAll (q : Query)

/-- Its statements (`writeTx`, `deleteByQuery` and the direct persister calls issue exactly these). -/
def Req.stmts (ck : Chunking) (nid : Nat) : Req → List Stmt
  | .transact strs ins del => mapStmts ck.maps nid strs ++ writeStmts ck.ins nid ins ++ deleteStmts ck.del nid del
  | .deleteAll q => [.deleteWhere nid q]

/-- The table after all of them ran: chunk sizes do not occur. -/
def Req.apply (nid : Nat) : Req → Store → Store
  | .transact _ ins del, s => deleteStmt nid del (insertRows (mkRows nid ins) s)
  | .deleteAll q, s => Store.deleteAll nid q s

/-- The same on the specification's side. -/
def Req.spec (nid : Nat) : Req → MS → MS
  | .transact _ ins del, m => m.transact nid (ins.map (·.1)) del
  | .deleteAll q, m => m.deleteAll nid q

def Req.ins : Req → List (Tuple × Nat)
  | .transact _ ins _ => ins
  | .deleteAll _ => []

def Req.dels : Req → Tuple → Bool
  | .transact _ _ del => fun t => decide (t ∈ del)
  | .deleteAll q => q.matches

/-- One shape for both: new rows of the network go in, rows of the network that a predicate on the relationship
    picks go out. -/
theorem Req.apply_eq (nid : Nat) (r : Req) (s : Store) :
    r.apply nid s = (insertRows (mkRows nid r.ins) s).filter fun x => !(inNet nid x && r.dels x.t) := by
  cases r <;> rfl

theorem Req.rows_execAll (ck : Chunking) (hck : ck.pos) (nid : Nat) (r : Req) (db : DB) :
    (execAll (r.stmts ck nid) db).rows = r.apply nid db.rows := by
  cases r with
  | transact strs ins del =>
    rw [Req.stmts, List.append_assoc, execAll_append, execAll_transact _ _ hck.1 hck.2.1, mapStmts,
      execAll_maps_rows]
    rfl
  | deleteAll q => rfl

theorem Req.abs_apply (nid : Nat) (r : Req) (s : Store) : abs (r.apply nid s) = r.spec nid (abs s) := by
  cases r with
  | transact strs ins del => exact (abs_deleteStmt ..).trans (congrArg (MS.delete · nid del) (abs_write ..))
  | deleteAll q => exact abs_deleteAll ..

theorem fromQuery_eq (cfg : Names) (q : Query) :
    fromQuery cfg q = if specQuery cfg q = true then .ok q else .error .notFound := by
  have : specQuery cfg q = (q.nsOK cfg && q.subNsOK cfg) := by
    unfold specQuery Query.nsOK Query.subNsOK
    cases q.ns <;> cases q.sub with
    | none => simp
    | some s => cases s <;> simp
  rw [this]; rfl

def planTx (cfg : Names) (ins : List (ATuple × Nat)) (del : List ATuple) : Except Status Req :=
  match fromTuples cfg (ins.map (·.1)) with
  | .error e => .error e
  | .ok insI =>
    match fromTuples cfg del with
    | .error e => .error e
    | .ok delI => .ok (.transact (stringsOf (ins.map (·.1) ++ del)) (insI.zip (ins.map (·.2))) delI)

def planDelete (cfg : Names) (q : Query) : Except Status Req := (fromQuery cfg q).map .deleteAll

/-- A read runs no statement: its plan is the empty transaction. -/
def Op.plan (cfg : Names) : Op → Except Status Req
  | .restCreate t sh => if !t.validate then .error .bad else planTx cfg [(t, sh)] []
  | .restDelete q => if q.ns.isNone then .error .bad else planDelete cfg q
  | .restPatch ds =>
    if !patchCheck ds then .error .bad
    else planTx cfg (withAction .insert ds) ((withAction .delete ds).map (·.1))
  | .grpcTransact ds =>
    if !protoCheck .insert ds then .error .bad
    else if !protoCheck .delete ds then .error .bad
    else planTx cfg (withAction .insert ds) ((withAction .delete ds).map (·.1))
  | .grpcDelete none => .error .bad
  | .grpcDelete (some q) => planDelete cfg q
  | .pWrite ins => .ok (.transact [] ins [])
  | .pDelete ts => .ok (.transact [] [] ts)
  | .pDeleteAll q => .ok (.deleteAll q)
  | .pTransact ins del => .ok (.transact [] ins del)
  | .pMap strs => .ok (.transact strs [] [])
  | .malformed => .error .bad
  | _ => .ok (.transact [] [] [])

/-- The shape of every plan, as an elimination rule: an early `400`, or `planTx` / `planDelete` on arguments read
    off the request, or a `Req` handed to the persister as it is — each with what `Op.shards` and `Op.mayDelete`
    say about those arguments. -/
theorem plan_cases (cfg : Names) (op : Op) {P : Except Status Req → Prop}
    (bad : P (.error .bad))
    (tx : ∀ ins del, op.shards = ins.map (·.2) →
      (∀ n x, op.mayDelete n x = (decide (x.nid = n) && del.any fun t => decide (t.internal? = some x.t))) →
      P (planTx cfg ins del))
    (del : ∀ q, op.shards = [] → (∀ n x, op.mayDelete n x = (decide (x.nid = n) && q.matches x.t)) →
      P (planDelete cfg q))
    (direct : ∀ r, op.shards = r.ins.map (·.2) → (∀ n x, op.mayDelete n x = (inNet n x && r.dels x.t)) →
      P (.ok r)) : P (op.plan cfg) := by
  have guard : ∀ {c : Prop} [Decidable c] {p : Except Status Req}, P p → P (if c then .error .bad else p) :=
    fun hp => by split <;> assumption
  have deltas : ∀ ds, (op = .restPatch ds ∨ op = .grpcTransact ds) →
      P (planTx cfg (withAction .insert ds) ((withAction .delete ds).map (·.1))) := fun ds h =>
    tx _ _ (by rcases h with rfl | rfl <;> rfl)
      (fun n x => by rcases h with rfl | rfl <;> simp [Op.mayDelete, List.any_map, Function.comp_def])
  cases op with
  | restCreate t sh => exact guard (tx _ _ rfl fun n x => by simp [Op.mayDelete])
  | restDelete q => exact guard (del q rfl fun _ _ => rfl)
  | restPatch ds => exact guard (deltas ds (.inl rfl))
  | grpcTransact ds => exact guard (guard (deltas ds (.inr rfl)))
  | grpcDelete q =>
    cases q with
    | none => exact bad
    | some q => exact del q rfl fun _ _ => rfl
  | malformed => exact bad
  | pDelete ts => exact direct _ rfl fun _ _ => rfl
  | pDeleteAll q => exact direct _ rfl fun _ _ => rfl
  | pTransact ins del => exact direct _ rfl fun _ _ => rfl
  | _ => exact direct _ rfl fun n x => by simp [Op.mayDelete, Req.dels]

/-- What a request answers and leaves, given its plan. -/
def planned (ck : Chunking) (fail : Oracle) (nid : Nat) (db : DB) : Except Status Req → Status × DB
  | .error e => (e, db)
  | .ok r => statusOfTx (transaction fail (r.stmts ck nid) db)

/-- An early `400` of a handler is an early error of the plan. -/
theorem planned_ite (ck : Chunking) (fail : Oracle) (nid : Nat) (db : DB) (c : Prop) [Decidable c] (e : Status)
    (p : Except Status Req) :
    planned ck fail nid db (if c then .error e else p) = if c then (e, db) else planned ck fail nid db p := by
  split <;> rfl

theorem ok_of_ite {c : Prop} [Decidable c] {e : Status} {p : Except Status Req} {r : Req}
    (h : (if c then .error e else p) = .ok r) : p = .ok r := by
  split at h
  · cases h
  · exact h

theorem writeTx_eq (ck : Chunking) (cfg : Names) (fail : Oracle) (nid : Nat) (ins : List (ATuple × Nat))
    (del : List ATuple) (db : DB) :
    writeTx ck cfg fail nid ins del db = planned ck fail nid db (planTx cfg ins del) := by
  unfold writeTx planTx
  cases fromTuples cfg (ins.map (·.1)) with
  | error e => rfl
  | ok insI => cases fromTuples cfg del <;> rfl

theorem deleteByQuery_eq (ck : Chunking) (cfg : Names) (fail : Oracle) (nid : Nat) (q : Query) (db : DB) :
    deleteByQuery cfg fail nid q db = planned ck fail nid db (planDelete cfg q) := by
  unfold deleteByQuery planDelete
  cases fromQuery cfg q <;> rfl

theorem step_write (ck : Chunking) (cfg : Names) (fail : Oracle) (nid : Nat) (op : Op) (db : DB)
    (hw : op.isRead = false) :
    step ck cfg fail nid op db = wOut (planned ck fail nid db (op.plan cfg)) := by
  cases op with
  | restCreate t sh => simp only [step, restCreate, Op.plan, writeTx_eq, planned_ite]
  | restDelete q => simp only [step, restDelete, Op.plan, deleteByQuery_eq ck, planned_ite]
  | restPatch ds => simp only [step, restPatch, Op.plan, writeTx_eq, planned_ite]
  | grpcTransact ds => simp only [step, grpcTransact, Op.plan, writeTx_eq, planned_ite]
  | grpcDelete q => cases q <;> simp only [step, grpcDelete, Op.plan, deleteByQuery_eq ck] <;> rfl
  | pWrite ins =>
    exact congrArg (fun sts => wOut (statusOfTx (transaction fail sts db))) (List.append_nil _).symm
  | pDelete ts => rfl
  | pDeleteAll q => rfl
  | pTransact ins del => rfl
  | pMap strs =>
    exact congrArg (fun sts => wOut (statusOfTx (transaction fail sts db)))
      ((List.append_nil _).symm.trans (List.append_nil _).symm)
  | malformed => rfl
  | _ => cases hw

theorem mapStrings_readOnly (ck : Chunking) (fail : Oracle) (nid : Nat) (strs : List Nat) (db : DB) :
    mapStrings true ck fail nid strs db = (true, db) := rfl

theorem mapQuery_readOnly_snd (ck : Chunking) (cfg : Names) (fail : Oracle) (nid : Nat) (q : Query) (db : DB) :
    (mapQuery true ck cfg fail nid q db).2 = db := by
  unfold mapQuery
  cases fromQuery cfg q <;> rfl

/-- The read-only mapper between `FromQuery` and `GetRelationTuples` computes ids and touches nothing. -/
theorem listReq_some (ck : Chunking) (cfg : Names) (nid : Nat) (q : Query) (size : Int) (tok : Token) (db : DB) :
    listReq ck cfg nid (some q) size tok db =
      match fromQuery cfg q with
      | .error e => ({ status := e }, db)
      | .ok iq => pList nid iq size tok db := by
  simp only [listReq, mapQuery]
  cases fromQuery cfg q <;> rfl

theorem listAllReq_some (ck : Chunking) (cfg : Names) (nid : Nat) (q : Query) (size : Int) (db : DB) :
    listAllReq ck cfg nid (some q) size db =
      match fromQuery cfg q with
      | .error e => ({ status := e }, db)
      | .ok iq =>
        if size < 0 then ({ status := .bad }, db)
        else match follow nid iq size db.rows (db.rows.length + 1) .empty with
          | none => ({ status := .internal }, db)
          | some ps => ({ status := .ok, pages := some ps }, db) := by
  simp only [listAllReq, mapQuery]
  cases fromQuery cfg q <;> rfl

theorem step_read (ck : Chunking) (cfg : Names) (fail : Oracle) (nid : Nat) (op : Op) (db : DB)
    (h : op.isRead = true) : (step ck cfg fail nid op db).2 = db := by
  cases op with
  | list q size tok =>
    show (listReq ck cfg nid q size tok db).2 = db
    fun_cases listReq ck cfg nid q size tok db
    · rfl
    all_goals exact mapQuery_readOnly_snd ..
  | listAll q size =>
    show (listAllReq ck cfg nid q size db).2 = db
    fun_cases listAllReq ck cfg nid q size db
    · rfl
    all_goals exact mapQuery_readOnly_snd ..
  | pList q size tok =>
    show (pList nid q size tok db).2 = db
    fun_cases pList nid q size tok db <;> rfl
  | pExists q => rfl
  | readOnlyMap strs => rfl
  | _ => cases h

theorem statusOfTx_snd (r : Bool × DB) : (statusOfTx r).2 = r.2 := rfl

theorem wOut_snd (r : Status × DB) : (wOut r).2 = r.2 := rfl

theorem step_snd (ck : Chunking) (cfg : Names) (fail : Oracle) (nid : Nat) (op : Op) (db : DB) :
    (step ck cfg fail nid op db).2 = (planned ck fail nid db (op.plan cfg)).2 := by
  by_cases hr : op.isRead = true
  · rw [step_read ck cfg fail nid op db hr]
    cases op with
    | list | listAll | pList | pExists | readOnlyMap => rfl
    | _ => cases hr
  · rw [step_write ck cfg fail nid op db (by simpa using hr)]; rfl

theorem step_db (ck : Chunking) (cfg : Names) (fail : Oracle) (nid : Nat) (op : Op) (db : DB) :
    (step ck cfg fail nid op db).2 = db ∨
    ∃ r, op.plan cfg = .ok r ∧ (step ck cfg fail nid op db).2 = execAll (r.stmts ck nid) db := by
  rw [step_snd]
  cases op.plan cfg with
  | error e => exact .inl rfl
  | ok r =>
    exact (transaction_cases fail (r.stmts ck nid) db).imp (congrArg Prod.snd)
      fun h => ⟨r, rfl, congrArg Prod.snd h⟩

theorem run_inv {ck : Chunking} {cfg : Names} {fail : Oracle} {P : DB → Prop} {ok : Nat × Op → Prop}
    (hstep : ∀ nid op db, ok (nid, op) → P db → P (step ck cfg fail nid op db).2) :
    ∀ (h : History) (db : DB), (∀ x ∈ h, ok x) → P db → P (run ck cfg fail h db).2
  | [], _, _, hP => hP
  | (nid, op) :: h, db, hok, hP =>
    run_inv hstep h _ (fun y hy => hok y (List.mem_cons_of_mem _ hy))
      (hstep nid op db (hok _ (List.mem_cons_self ..)) hP)

def okOpt {ε α : Type} : Except ε α → Option α
  | .ok a => some a
  | .error _ => none

theorem specTuple_eq (cfg : Names) (t : ATuple) : specTuple cfg t = okOpt (fromTuple cfg t) := by
  fun_cases fromTuple cfg t <;> simp_all [specTuple, okOpt, ATuple.validate]
  -- unknown namespace: every arm of the specification's `match` on the subject fields is `none`
  case case1 => split <;> rfl

theorem specTuples_eq (cfg : Names) (ts : List ATuple) : specTuples cfg ts = okOpt (fromTuples cfg ts) := by
  fun_induction fromTuples cfg ts <;> simp [specTuples, specTuple_eq, okOpt, *]

theorem fromTuple_err {cfg : Names} {t : ATuple} {e : Status} (h : fromTuple cfg t = .error e) : e ≠ .ok := by
  revert h
  fun_cases fromTuple cfg t <;> intro h <;> cases h <;> decide

theorem fromTuple_internal {cfg : Names} {t : ATuple} {it : Tuple} (h : fromTuple cfg t = .ok it) :
    t.internal? = some it := by
  revert h
  fun_cases fromTuple cfg t <;> intro h <;> cases h <;> simp [ATuple.internal?, *]

theorem fromTuples_err {cfg : Names} {ts : List ATuple} {e : Status} (h : fromTuples cfg ts = .error e) :
    e ≠ .ok := by
  fun_induction fromTuples cfg ts with
  | case1 => cases h
  | case2 t ts e1 h1 => cases h; exact fromTuple_err h1
  | case3 t ts it h1 e2 h2 ih => cases h; exact ih h2
  | case4 => cases h

theorem fromTuples_ok {cfg : Names} {ts : List ATuple} {its : List Tuple} (h : fromTuples cfg ts = .ok its) :
    ts.map (·.internal?) = its.map some := by
  fun_induction fromTuples cfg ts generalizing its with
  | case1 => cases h; rfl
  | case2 => cases h
  | case3 => cases h
  | case4 t ts it h1 its' h2 ih => cases h; simp [fromTuple_internal h1, ih h2]

theorem fromTuples_length {cfg : Names} {ts : List ATuple} {its : List Tuple}
    (h : fromTuples cfg ts = .ok its) : its.length = ts.length := by
  simpa using (congrArg List.length (fromTuples_ok h)).symm

theorem specTuple_none_of_not_validate (cfg : Names) (t : ATuple) (h : t.validate = false) :
    specTuple cfg t = none := by
  unfold ATuple.validate at h
  unfold specTuple
  cases hs : t.sid <;> cases hss : t.sset <;> simp_all

theorem specTuples_none_of_mem {cfg : Names} {ts : List ATuple} {t : ATuple} (hm : t ∈ ts)
    (h : specTuple cfg t = none) : specTuples cfg ts = none := by
  induction ts with
  | nil => cases hm
  | cons x xs ih =>
    simp only [specTuples]
    rcases List.mem_cons.mp hm with rfl | hm
    · rw [h]
    · rw [ih hm]
      cases specTuple cfg x <;> rfl

theorem withAction_tuples (a : Action) (ds : List Delta) :
    (withAction a ds).map (·.1) = deltaTuples a ds := by
  unfold deltaTuples
  fun_induction withAction a ds <;> simp_all

theorem MS.delete_nil (m : MS) (nid : Nat) : m.delete nid [] = m := by
  funext n t; simp [MS.delete]

theorem MS.create_nil (m : MS) (nid : Nat) : m.create nid [] = m := by
  funext n t; simp [MS.create]

/-- The specification's reading of a plan. -/
def specPlanned (nid : Nat) (m : MS) : Except Status Req → MS
  | .error _ => m
  | .ok r => r.spec nid m

theorem planTx_spec (cfg : Names) (nid : Nat) (ins : List (ATuple × Nat)) (del : List ATuple) (m : MS) :
    specPlanned nid m (planTx cfg ins del) =
      (match specTuples cfg (ins.map (·.1)), specTuples cfg del with
       | some i, some d => m.transact nid i d
       | _, _ => m) := by
  unfold planTx
  rw [specTuples_eq, specTuples_eq]
  cases h1 : fromTuples cfg (ins.map (·.1)) with
  | error e => rfl
  | ok insI =>
    cases fromTuples cfg del with
    | error e => rfl
    | ok delI =>
      have hl : insI.length ≤ (ins.map (·.2)).length := by
        rw [fromTuples_length h1, List.length_map, List.length_map]; exact Nat.le_refl _
      simp only [okOpt, specPlanned, Req.spec, List.map_fst_zip hl]

theorem planDelete_spec (cfg : Names) (nid : Nat) (q : Query) (m : MS) :
    specPlanned nid m (planDelete cfg q) = if specQuery cfg q = true then m.deleteAll nid q else m := by
  rw [planDelete, fromQuery_eq]
  split <;> rfl

theorem mem_deltaTuples {a : Action} {ds : List Delta} {d : Delta} {t : ATuple} (hd : d ∈ ds)
    (ha : d.action = a) (ht : d.t = some t) : t ∈ deltaTuples a ds := by
  unfold deltaTuples
  rw [List.mem_filterMap]
  exact ⟨d, hd, by simp [ha, ht]⟩

theorem deltas_none {cfg : Names} {ds : List Delta} {d : Delta} {t : ATuple} (hd : d ∈ ds)
    (ha : d.action ≠ .other) (ht : d.t = some t) (hs : specTuple cfg t = none) :
    specTuples cfg (deltaTuples .insert ds) = none ∨ specTuples cfg (deltaTuples .delete ds) = none := by
  cases hact : d.action with
  | other => exact absurd hact ha
  | insert => exact .inl (specTuples_none_of_mem (mem_deltaTuples hd hact ht) hs)
  | delete => exact .inr (specTuples_none_of_mem (mem_deltaTuples hd hact ht) hs)

theorem applyDeltas_invalid (cfg : Names) (nid : Nat) (m : MS) {ds : List Delta} {d : Delta} {t : ATuple}
    (hd : d ∈ ds) (ht : d.t = some t) (hv : t.validate = false) (ha : d.action ≠ .other) :
    applyDeltas cfg nid ds m = m := by
  rw [applyDeltas]
  rcases deltas_none hd ha ht (specTuple_none_of_not_validate cfg t hv) with h | h <;> rw [h]
  cases specTuples cfg (deltaTuples .insert ds) <;> rfl

/-- A delta with a real action that carries a relationship carries one with a subject: what the handlers
    check on top of the shape the specification asks of the deltas. -/
def Delta.valid (d : Delta) : Prop := d.action ≠ .other → ∀ t, d.t = some t → t.validate = true

theorem patchCheck_iff (ds : List Delta) :
    patchCheck ds = true ↔ ∀ d ∈ ds, (d.t.isSome && d.action != .other) = true ∧ d.valid := by
  have one : ∀ d : Delta, (∃ t, d.t = some t ∧ t.validate = true ∧ d.action ≠ .other) ↔
      (d.t.isSome && d.action != .other) = true ∧ d.valid := fun d => by
    cases h : d.t <;> simp [Delta.valid, h]
    case some => exact ⟨fun h => ⟨h.2, fun _ => h.1⟩, fun h => ⟨h.2 h.1, h.1⟩⟩
  simp only [← one]
  induction ds with
  | nil => simp [patchCheck]
  | cons d ds ih => cases h : d.t <;> simp [patchCheck, h, ih]

theorem protoCheck_iff (a : Action) (ds : List Delta) :
    protoCheck a ds = true ↔ ∀ d ∈ ds, d.action = a → ∃ t, d.t = some t ∧ t.validate = true := by
  induction ds with
  | nil => simp [protoCheck]
  | cons d ds ih => by_cases ha : d.action = a <;> cases h : d.t <;> simp [protoCheck, h, ha, ih]

theorem protoChecks_iff (ds : List Delta) :
    (protoCheck .insert ds && protoCheck .delete ds) = true ↔
      ∀ d ∈ ds, (d.action == .other || d.t.isSome) = true ∧ d.valid := by
  have one : ∀ d : Delta, (d.action ≠ .other → ∃ t, d.t = some t ∧ t.validate = true) ↔
      (d.action == .other || d.t.isSome) = true ∧ d.valid := fun d => by
    cases h : d.t <;> simp [Delta.valid, h]
  simp only [← one]
  rw [Bool.and_eq_true, protoCheck_iff, protoCheck_iff]
  constructor
  · rintro ⟨hi, hd⟩ d hm ha
    cases hact : d.action with
    | other => exact absurd hact ha
    | insert => exact hi d hm hact
    | delete => exact hd d hm hact
  · intro h
    exact ⟨fun d hm ha => h d hm (by rw [ha]; decide), fun d hm ha => h d hm (by rw [ha]; decide)⟩

theorem planDeltas_spec (cfg : Names) (nid : Nat) (ds : List Delta) (m : MS) :
    specPlanned nid m (planTx cfg (withAction .insert ds) ((withAction .delete ds).map (·.1))) =
      applyDeltas cfg nid ds m := by
  rw [planTx_spec, applyDeltas, withAction_tuples, withAction_tuples]
  rfl

/-- Patch and transact alike: the handler's check `chk` is the shape `C` the specification asks of every delta
    plus `Delta.valid`; where only the latter fails the specification's reading has no effect either. -/
theorem deltas_spec (cfg : Names) (nid : Nat) (ds : List Delta) (m : MS) {chk : Bool} {C : Delta → Bool}
    (h : chk = true ↔ ∀ d ∈ ds, C d = true ∧ d.valid) :
    (if ds.all C = true then applyDeltas cfg nid ds m else m) =
      specPlanned nid m
        (if !chk then .error .bad else planTx cfg (withAction .insert ds) ((withAction .delete ds).map (·.1))) := by
  cases hc : chk with
  | false =>
    split
    · next hall =>
      -- some delta has the shape but is not valid: its relationship has no subject
      have : ¬ ∀ d ∈ ds, d.valid := fun hv =>
        absurd (h.mpr fun d hm => ⟨List.all_eq_true.mp hall d hm, hv d hm⟩) (by rw [hc]; decide)
      simp only [Delta.valid, Classical.not_forall] at this
      obtain ⟨d, hd, ha, t, ht, hv⟩ := this
      exact applyDeltas_invalid cfg nid m hd ht (by simpa using hv) ha
    · rfl
  | true =>
    rw [if_pos (List.all_eq_true.mpr fun d hm => (h.mp hc d hm).1)]
    exact (planDeltas_spec ..).symm

/-- The handlers accept what the specification accepts, and then mean the same. -/
theorem plan_spec (cfg : Names) (nid : Nat) (op : Op) (m : MS) :
    specStep cfg nid op m = specPlanned nid m (op.plan cfg) := by
  cases op with
  | restCreate t sh =>
    simp only [Op.plan, specStep]
    by_cases hv : t.validate = true
    · simp only [hv, Bool.not_true, Bool.false_eq_true, if_false, planTx_spec, List.map_cons, List.map_nil, specTuples]
      cases specTuple cfg t with
      | none => rfl
      | some it => simp [MS.transact, MS.delete_nil]
    · have hv' : t.validate = false := by simpa using hv
      simp only [hv', Bool.not_false, if_true]
      rw [specTuple_none_of_not_validate cfg t hv']
      rfl
  | restDelete q =>
    simp only [Op.plan, specStep]
    cases hq : q.ns with
    | none => rfl
    | some n =>
      simp only [Option.isNone_some, Bool.false_eq_true, if_false, Option.isSome_some, Bool.true_and,
        planDelete_spec]
  | restPatch ds => exact deltas_spec cfg nid ds m (patchCheck_iff ds)
  | grpcTransact ds =>
    refine (deltas_spec cfg nid ds m (protoChecks_iff ds)).trans ?_
    simp only [Op.plan]
    cases protoCheck .insert ds <;> cases protoCheck .delete ds <;> rfl
  | grpcDelete q =>
    cases q with
    | none => rfl
    | some q => simp only [Op.plan, specStep, planDelete_spec]
  | _ => simp only [Op.plan, specStep, specPlanned, Req.spec, MS.transact, List.map_nil, MS.create_nil, MS.delete_nil]

theorem planned_noFail_rows (ck : Chunking) (hck : ck.pos) (nid : Nat) (db : DB) (p : Except Status Req) :
    (planned ck noFail nid db p).2.rows = match p with
      | .error _ => db.rows
      | .ok r => r.apply nid db.rows := by
  cases p with
  | error e => rfl
  | ok r => simp only [planned, statusOfTx_snd, transaction_noFail, r.rows_execAll ck hck]

theorem step_abs (ck : Chunking) (hck : ck.pos) (cfg : Names) (nid : Nat) (op : Op) (db : DB) :
    abs (step ck cfg noFail nid op db).2.rows = specStep cfg nid op (abs db.rows) := by
  rw [step_snd, plan_spec, planned_noFail_rows ck hck]
  cases op.plan cfg with
  | error e => rfl
  | ok r => exact r.abs_apply nid db.rows

theorem run_abs (ck : Chunking) (hck : ck.pos) (cfg : Names) (h : History) (db : DB) :
    abs (run ck cfg noFail h db).2.rows = specRun cfg h (abs db.rows) := by
  induction h generalizing db with
  | nil => rfl
  | cons x h ih =>
    simp only [run, specRun]
    rw [ih, step_abs ck hck]

theorem Req.apply_WF {nid : Nat} {r : Req} {s : Store} (hs : WF s) (hf : Fresh (r.ins.map (·.2)) s) :
    WF (r.apply nid s) := by
  rw [r.apply_eq]
  exact filter_WF (insertRows_WF hs (by rw [mkRows_shards]; exact hf)) _

theorem planTx_ok {cfg : Names} {ins : List (ATuple × Nat)} {del : List ATuple} {r : Req}
    (h : planTx cfg ins del = .ok r) :
    ∃ insI delI, fromTuples cfg (ins.map (·.1)) = .ok insI ∧ fromTuples cfg del = .ok delI ∧
      r = .transact (stringsOf (ins.map (·.1) ++ del)) (insI.zip (ins.map (·.2))) delI := by
  revert h
  fun_cases planTx cfg ins del <;> intro h <;> cases h
  exact ⟨_, _, ‹_›, ‹_›, rfl⟩

theorem planTx_shards {cfg : Names} {ins : List (ATuple × Nat)} {del : List ATuple} {r : Req}
    (h : planTx cfg ins del = .ok r) : r.ins.map (·.2) = ins.map (·.2) := by
  obtain ⟨insI, delI, h1, _, rfl⟩ := planTx_ok h
  exact List.map_snd_zip (by rw [fromTuples_length h1, List.length_map, List.length_map]; exact Nat.le_refl _)

theorem planDelete_ok {cfg : Names} {q : Query} {r : Req} (h : planDelete cfg q = .ok r) : r = .deleteAll q := by
  rw [planDelete, fromQuery_eq] at h
  split at h <;> cases h
  rfl

theorem plan_shards {cfg : Names} {op : Op} {r : Req} (h : op.plan cfg = .ok r) : r.ins.map (·.2) = op.shards := by
  revert h
  refine plan_cases cfg op (P := fun p => p = .ok r → r.ins.map (·.2) = op.shards) nofun
    (fun ins del hs _ h => ?_) (fun q hs _ h => ?_) (fun r' hs _ h => ?_)
  · rw [hs]; exact planTx_shards h
  · cases planDelete_ok h; exact hs.symm
  · cases h; exact hs.symm

theorem planTx_err {cfg : Names} {ins : List (ATuple × Nat)} {del : List ATuple} {e : Status}
    (h : planTx cfg ins del = .error e) : e ≠ .ok := by
  revert h
  fun_cases planTx cfg ins del <;> intro h <;> cases h
  · exact fromTuples_err ‹_›
  · exact fromTuples_err ‹_›

theorem plan_err {cfg : Names} {op : Op} {e : Status} (h : op.plan cfg = .error e) : e ≠ .ok := by
  revert h
  refine plan_cases cfg op (P := fun p => p = .error e → e ≠ .ok) (fun h => ?_) (fun ins del _ _ h => planTx_err h)
    (fun q _ _ h => ?_) (fun _ _ _ h => nomatch h)
  · cases h; nofun
  · rw [planDelete, fromQuery_eq] at h
    split at h <;> cases h
    nofun

theorem step_WF (ck : Chunking) (hck : ck.pos) (cfg : Names) (fail : Oracle) (nid : Nat) (op : Op) (db : DB)
    (hs : WF db.rows) (hf : Fresh op.shards db.rows) : WF (step ck cfg fail nid op db).2.rows := by
  rcases step_db ck cfg fail nid op db with h | ⟨r, hp, h⟩ <;> rw [h]
  · exact hs
  · rw [r.rows_execAll ck hck]
    exact Req.apply_WF hs (plan_shards hp ▸ hf)

theorem run_WF (ck : Chunking) (hck : ck.pos) (cfg : Names) (fail : Oracle) (h : History) (db : DB)
    (hs : WF db.rows) (hf : FreshRun ck cfg fail h db) : WF (run ck cfg fail h db).2.rows := by
  induction h generalizing db with
  | nil => exact hs
  | cons x h ih =>
    rcases x with ⟨nid, op⟩
    exact ih _ (step_WF ck hck cfg fail nid op db hs hf.1) hf.2

/-- A statement that only concerns network `A` (every statement the persister of `A` issues: the inserted
    rows carry `A`, the deletes carry `nid = A`). -/
def Stmt.inNetwork (A : Nat) : Stmt → Prop
  | .insertMaps _ => True
  | .insertRows rs => ∀ r ∈ rs, r.nid = A
  | .deleteRows nid _ => nid = A
  | .deleteWhere nid _ => nid = A

theorem view_exec {A B : Nat} (hAB : A ≠ B) (st : Stmt) (hst : st.inNetwork A) (db : DB) :
    view B (st.exec db).rows = view B db.rows := by
  cases st with
  | insertMaps ms => rfl
  | insertRows rs =>
    exact filter_insertRows_of_neg (fun r hr => by simp [inNet, hst r hr, hAB]) _
  | deleteRows nid ts => cases hst; exact view_remove hAB _ _
  | deleteWhere nid q => cases hst; exact view_remove hAB _ _

theorem view_execAll {A B : Nat} (hAB : A ≠ B) (sts : List Stmt) (hst : ∀ st ∈ sts, st.inNetwork A) (db : DB) :
    view B (execAll sts db).rows = view B db.rows := by
  induction sts generalizing db with
  | nil => rfl
  | cons st rest ih =>
    simp only [execAll]
    rw [ih (fun x hx => hst x (List.mem_cons_of_mem _ hx)), view_exec hAB st (hst st (by simp))]

theorem Req.stmts_inNetwork (ck : Chunking) (nid : Nat) (r : Req) : ∀ st ∈ r.stmts ck nid, st.inNetwork nid := by
  intro st hst
  cases r with
  | transact strs ins del =>
    simp only [Req.stmts, mapStmts, writeStmts, deleteStmts, List.mem_append, List.mem_map] at hst
    rcases hst with (⟨c, _, rfl⟩ | ⟨c, hc, rfl⟩) | ⟨c, _, rfl⟩
    · trivial
    · intro r hr
      obtain ⟨p, _, rfl⟩ := List.mem_map.mp (mem_chunksF hc hr)
      rfl
    · rfl
  | deleteAll q => cases List.mem_singleton.mp hst; rfl

theorem step_view {A B : Nat} (hAB : A ≠ B) (ck : Chunking) (cfg : Names) (fail : Oracle) (op : Op) (db : DB) :
    view B (step ck cfg fail A op db).2.rows = view B db.rows := by
  rcases step_db ck cfg fail A op db with h | ⟨r, _, h⟩ <;> rw [h]
  exact view_execAll hAB _ (r.stmts_inNetwork ck A) db

theorem run_view (B : Nat) (ck : Chunking) (cfg : Names) (fail : Oracle) (h : History)
    (hB : ∀ x ∈ h, x.1 ≠ B) (db : DB) :
    view B (run ck cfg fail h db).2.rows = view B db.rows :=
  run_inv (P := fun d => view B d.rows = view B db.rows)
    (fun _ op d hA hd => (step_view hA ck cfg fail op d).trans hd) h db hB rfl

/-- A complete listing through the API on a well-formed table: accepted iff the specification accepts it,
    and then it returns the matching rows. -/
theorem listAllReq_spec (ck : Chunking) (cfg : Names) (nid : Nat) (q : Option Query) (size : Int) (db : DB)
    (hwf : WF db.rows) :
    match (listAllReq ck cfg nid q size db).1.pages, specListAll cfg nid q size (abs db.rows) with
    | some ps, some f => ∀ t, ((pagesRows ps).map (·.t)).count t = f t
    | none, none => True
    | _, _ => False := by
  unfold specListAll
  cases q with
  | none => simp [listAllReq]
  | some q =>
    rw [listAllReq_some, fromQuery_eq]
    by_cases hq : specQuery cfg q = true
    · by_cases hsz : size < 0
      · simp [hq, hsz, Int.not_le.mpr hsz]
      · obtain ⟨ps, hps, hrows⟩ := follow_all hwf nid q size (Int.not_lt.mp hsz)
        simp only [hq, hsz, hps, if_true, if_false, Bool.true_and, Int.not_lt.mp hsz, decide_true]
        intro t
        rw [hrows, count_matching]
    · simp [hq]

theorem planned_all_or_nothing (ck : Chunking) (fail : Oracle) (nid : Nat) (db : DB) (p : Except Status Req) :
    ((planned ck fail nid db p).1 = .ok → planned ck fail nid db p = planned ck noFail nid db p) ∧
    ((planned ck fail nid db p).1 ≠ .ok → (planned ck fail nid db p).2 = db) := by
  cases p with
  | error e => exact ⟨fun _ => rfl, fun _ => rfl⟩
  | ok r =>
    simp only [planned, transaction_noFail]
    rcases transaction_cases fail (r.stmts ck nid) db with h | h <;> rw [h]
    · exact ⟨fun h => (by cases h), fun _ => rfl⟩
    · exact ⟨fun _ => rfl, fun h => absurd rfl h⟩

theorem okOpt_none {ε α : Type} {x : Except ε α} (h : okOpt x = none) : ∃ e, x = .error e := by
  cases x with
  | error e => exact ⟨e, rfl⟩
  | ok a => cases h

theorem planTx_rejects {cfg : Names} {ins : List (ATuple × Nat)} {del : List ATuple}
    (h : specTuples cfg (ins.map (·.1)) = none ∨ specTuples cfg del = none) (r : Req) :
    planTx cfg ins del ≠ .ok r := by
  intro hp
  obtain ⟨insI, delI, h1, h2, _⟩ := planTx_ok hp
  rw [specTuples_eq, specTuples_eq, h1, h2] at h
  rcases h with h | h <;> cases h

theorem step_rejects (ck : Chunking) (cfg : Names) (fail : Oracle) (nid : Nat) (op : Op) (db : DB)
    (hw : op.isRead = false) (h : ∀ r, op.plan cfg ≠ .ok r) : (step ck cfg fail nid op db).1.status ≠ .ok := by
  rw [step_write ck cfg fail nid op db hw]
  cases hp : op.plan cfg with
  | error e => exact plan_err hp
  | ok r => exact absurd hp (h r)

theorem Req.apply_keeps {nid : Nat} {r : Req} {s : Store} {x : Row} (hx : x ∈ s)
    (h : (inNet nid x && r.dels x.t) = false) : x ∈ r.apply nid s := by
  rw [r.apply_eq]
  exact List.mem_filter.mpr ⟨mem_insertRows.mpr (.inr hx), by rw [h]; rfl⟩

theorem planTx_spares {cfg : Names} {ins : List (ATuple × Nat)} {del : List ATuple} {r : Req}
    (h : planTx cfg ins del = .ok r) {n : Nat} {x : Row}
    (hdel : (decide (x.nid = n) && del.any fun t => decide (t.internal? = some x.t)) = false) :
    (inNet n x && r.dels x.t) = false := by
  obtain ⟨insI, delI, _, h2, rfl⟩ := planTx_ok h
  rw [Bool.and_eq_false_iff] at hdel ⊢
  refine hdel.imp id fun hany => ?_
  simp only [Req.dels, decide_eq_false_iff_not]
  intro hmem
  have : some x.t ∈ del.map (·.internal?) := fromTuples_ok h2 ▸ List.mem_map_of_mem hmem
  obtain ⟨t, ht, hti⟩ := List.mem_map.mp this
  rw [List.any_eq_true.mpr ⟨t, ht, by simp [hti]⟩] at hany
  cases hany

theorem plan_spares {cfg : Names} {op : Op} {r : Req} (hp : op.plan cfg = .ok r) {n : Nat} {x : Row}
    (hop : op.mayDelete n x = false) : (inNet n x && r.dels x.t) = false := by
  revert hp
  refine plan_cases cfg op (P := fun p => p = .ok r → (inNet n x && r.dels x.t) = false) nofun
    (fun ins del _ hd h => ?_) (fun q _ hd h => ?_) (fun r' _ hd h => ?_)
  · exact planTx_spares h ((hd n x).symm.trans hop)
  · cases planDelete_ok h; exact (hd n x).symm.trans hop
  · cases h; exact (hd n x).symm.trans hop
/-- Membership of the row itself: same shard id, same content. -/
theorem step_keeps (ck : Chunking) (hck : ck.pos) (cfg : Names) (fail : Oracle) (n : Nat) (op : Op) (db : DB)
    (r : Row) (hr : r ∈ db.rows) (hop : op.mayDelete n r = false) :
    r ∈ (step ck cfg fail n op db).2.rows := by
  rcases step_db ck cfg fail n op db with h | ⟨q, hp, h⟩ <;> rw [h]
  · exact hr
  · rw [q.rows_execAll ck hck]
    exact Req.apply_keeps hr (plan_spares hp hop)

theorem run_keeps (ck : Chunking) (hck : ck.pos) (cfg : Names) (fail : Oracle) (h : History) (db : DB)
    (r : Row) (hr : r ∈ db.rows) (hh : ∀ x ∈ h, x.2.mayDelete x.1 r = false) :
    r ∈ (run ck cfg fail h db).2.rows :=
  run_inv (P := fun d => r ∈ d.rows) (fun n op d hop hd => step_keeps ck hck cfg fail n op d r hd hop) h db hh hr

theorem storesOf_inv (ck : Chunking) (hck : ck.pos) (cfg : Names) (fail : Oracle) (r : Row) :
    ∀ (hs : List History) (db : DB), WF db.rows → r ∈ db.rows → FreshRuns ck cfg fail db hs →
      (∀ h ∈ hs, ∀ x ∈ h, x.2.mayDelete x.1 r = false) →
      ∀ s ∈ storesOf ck cfg fail db hs, WF s ∧ r ∈ s := by
  intro hs
  induction hs with
  | nil =>
    intro db hwf hr _ _ s hs
    simp only [storesOf, List.mem_singleton] at hs
    subst hs
    exact ⟨hwf, hr⟩
  | cons h hs ih =>
    intro db hwf hr hf hsp s hs
    simp only [storesOf, List.mem_cons] at hs
    rcases hs with rfl | hs
    · exact ⟨hwf, hr⟩
    · exact ih _ (run_WF ck hck cfg fail h db hwf hf.1)
        (run_keeps ck hck cfg fail h db r hr (hsp h (by simp))) hf.2
        (fun h' hh' => hsp h' (List.mem_cons_of_mem _ hh')) s hs

end Keto.Store
