/-
  What acceptance by the OPL type checker means for the engine: it gives `TypeOk`, a decidable predicate on the
  configuration (`typeOk_of_cov`, through the coverage invariant `parseItems_cov`: every declared type and every
  rewrite leaf of every parsed namespace has its deferred check), and `TypeOk` + `PlainTraversals` + a conforming
  store give `WellFormed` (`wellFormed_of_typeOk`).
-/
import Keto.Spec.WellFormed
import Keto.Spec.Membership
import Keto.Proofs.OplLoops
import Keto.Proofs.TypecheckErrors
import Keto.Proofs.QueryLemmas
import Keto.Proofs.ConformsLemmas

namespace Keto
open Keto.Opl

/-- A declared type resolves: the namespace of `T[]` exists, `SubjectSet<T, R>` names a relation of `T`. -/
def relTypeOkB (c : Cfg) (ty : RelType) : Bool :=
  if ty.rel == "" then (findNsT c ty.ns).isSome else (findRelationT c ty.ns ty.rel).isSome

/-- `TypesHave` as a Boolean function. -/
def typesHaveB (c : Cfg) (crel : String) : Nat → String → String → Bool
  | 0, _, _ => false
  | k+1, ns, rel =>
    match findRelationT c ns rel with
    | none => false
    | some R => R.types.all fun t =>
        if t.rel == "" then (findRelationT c t.ns crel).isSome else typesHaveB c crel k t.ns t.rel

/-- The leaves of a rewrite of namespace `cur` resolve: computed subject sets and traversed relations are
    relations of `cur`; the target of a traversal is declared in every type of the traversed relation
    (as the type checker understands it: `TypesHave`). -/
def rewriteOkB (c : Cfg) (cur : String) (rw : Rewrite) : Bool :=
  (computedNames rw).all (fun r => (findRelationT c cur r).isSome) &&
  (ttuNames rw).all (fun q => (findRelationT c cur q.1).isSome &&
    typesHaveB c q.2 (Keto.Facts.tupleToSubjectSetTypeCheckMaxDepth + 1) cur q.1)

def relationOkB (c : Cfg) (cur : String) (R : Relation) : Bool :=
  R.types.all (relTypeOkB c) &&
  match R.rewrite with
  | none => true
  | some rw => rewriteOkB c cur rw

def typeOkB (c : Cfg) : Bool := c.all fun N => N.relations.all (relationOkB c N.name)

/-- The configuration type-checks: what the deferred checks of the OPL parser establish, stated on the
    configuration itself (decidable). Lookups are by name, first match, as in the type checker. -/
def TypeOk (c : Cfg) : Prop := typeOkB c = true

instance (c : Cfg) : Decidable (TypeOk c) := inferInstanceAs (Decidable (typeOkB c = true))

def plainTraversalsB (c : Cfg) : Bool :=
  c.all fun N => N.relations.all fun R =>
    match R.rewrite with
    | none => true
    | some rw => (ttuNames rw).all fun q =>
        match findRelationT c N.name q.1 with
        | none => false
        | some Rr => Rr.types.all fun ty => ty.rel == ""

/-- Every relation that is traversed (`this.related.rel.traverse(…)`) in a rewrite of a namespace is
    declared in that namespace with plain namespace types only (`T[]`, no `SubjectSet<T, R>`). -/
def PlainTraversals (c : Cfg) : Prop := plainTraversalsB c = true

instance (c : Cfg) : Decidable (PlainTraversals c) := inferInstanceAs (Decidable (plainTraversalsB c = true))

theorem typesHaveB_iff (c : Cfg) (crel : String) : ∀ (k : Nat) (ns rel : String),
    typesHaveB c crel k ns rel = true ↔ TypesHave c crel k ns rel
  | 0, _, _ => by simp [typesHaveB, TypesHave]
  | k+1, ns, rel => by
    unfold typesHaveB TypesHave
    cases findRelationT c ns rel with
    | none => simp
    | some R =>
      simp only [List.all_eq_true, Option.some.injEq, exists_eq_left']
      refine forall_congr' fun t => forall_congr' fun _ => ?_
      by_cases ht : t.rel = "" <;> simp [ht, findRelationT_isSome_iff, typesHaveB_iff c crel k]

theorem relTypeOkB_iff (c : Cfg) (ty : RelType) : relTypeOkB c ty = true ↔
    if ty.rel = "" then Declared c ty.ns else HasRelation c ty.ns ty.rel := by
  unfold relTypeOkB
  by_cases h : ty.rel = "" <;> simp [h, findNsT_isSome_iff, findRelationT_isSome_iff]

theorem rewriteOkB_iff (c : Cfg) (cur : String) (rw : Rewrite) : rewriteOkB c cur rw = true ↔
    (∀ r ∈ computedNames rw, HasRelation c cur r) ∧
    ∀ q ∈ ttuNames rw, HasRelation c cur q.1 ∧
      TypesHave c q.2 (Keto.Facts.tupleToSubjectSetTypeCheckMaxDepth + 1) cur q.1 := by
  simp [rewriteOkB, findRelationT_isSome_iff, typesHaveB_iff]

theorem typeOk_iff (c : Cfg) : TypeOk c ↔ ∀ N ∈ c, ∀ R ∈ N.relations,
    (∀ ty ∈ R.types, relTypeOkB c ty = true) ∧ ∀ rw, R.rewrite = some rw → rewriteOkB c N.name rw = true := by
  simp only [TypeOk, typeOkB, relationOkB, List.all_eq_true, Bool.and_eq_true]
  refine forall_congr' fun N => forall_congr' fun _ => forall_congr' fun R => forall_congr' fun _ =>
    and_congr_right fun _ => ?_
  cases R.rewrite <;> simp

theorem TypeOk.relation {c : Cfg} (h : TypeOk c) {N : Namespace} (hN : N ∈ c) {R : Relation} (hR : R ∈ N.relations) :
    relationOkB c N.name R = true :=
  List.all_eq_true.mp (List.all_eq_true.mp h N hN) R hR

theorem TypeOk.types {c : Cfg} (h : TypeOk c) {N : Namespace} (hN : N ∈ c) {R : Relation} (hR : R ∈ N.relations)
    {ty : RelType} (hty : ty ∈ R.types) : relTypeOkB c ty = true :=
  ((typeOk_iff c).mp h N hN R hR).1 ty hty

theorem TypeOk.rewrite {c : Cfg} (h : TypeOk c) {N : Namespace} (hN : N ∈ c) {R : Relation} (hR : R ∈ N.relations)
    {rw : Rewrite} (hrw : R.rewrite = some rw) : rewriteOkB c N.name rw = true :=
  ((typeOk_iff c).mp h N hN R hR).2 rw hrw

theorem TypeOk.computed {c : Cfg} (h : TypeOk c) {N : Namespace} (hN : N ∈ c) {R : Relation} (hR : R ∈ N.relations)
    {rw : Rewrite} (hrw : R.rewrite = some rw) {r : String} (hr : r ∈ computedNames rw) :
    (findRelationT c N.name r).isSome = true :=
  (findRelationT_isSome_iff _ _ _).mpr (((rewriteOkB_iff _ _ _).mp (h.rewrite hN hR hrw)).1 r hr)

theorem TypeOk.ttu {c : Cfg} (h : TypeOk c) {N : Namespace} (hN : N ∈ c) {R : Relation} (hR : R ∈ N.relations)
    {rw : Rewrite} (hrw : R.rewrite = some rw) {q : String × String} (hq : q ∈ ttuNames rw) :
    TypesHave c q.2 (Keto.Facts.tupleToSubjectSetTypeCheckMaxDepth + 1) N.name q.1 :=
  (((rewriteOkB_iff _ _ _).mp (h.rewrite hN hR hrw)).2 q hq).2

theorem PlainTraversals.plain {c : Cfg} (h : PlainTraversals c) {N : Namespace} (hN : N ∈ c) {R : Relation}
    (hR : R ∈ N.relations) {rw : Rewrite} (hrw : R.rewrite = some rw) {q : String × String} (hq : q ∈ ttuNames rw) :
    ∃ Rr, findRelationT c N.name q.1 = some Rr ∧ ∀ ty ∈ Rr.types, ty.rel = "" := by
  have := List.all_eq_true.mp (List.all_eq_true.mp h N hN) R hR
  rw [hrw] at this
  have := List.all_eq_true.mp this q hq
  cases hf : findRelationT c N.name q.1 with
  | none => rw [hf] at this; cases this
  | some Rr =>
    rw [hf] at this
    exact ⟨Rr, rfl, fun ty hty => by simpa using List.all_eq_true.mp this ty hty⟩

theorem typeOk_of_cov {nss : List Namespace} {cs : List TypeCheck} (hcov : ∀ N ∈ nss, CovNs cs N)
    (hok : checksOk nss cs) : TypeOk nss := by
  refine (typeOk_iff nss).mpr fun N hN R hR => ?_
  obtain ⟨hty, hrw⟩ := hcov N hN R hR
  refine ⟨fun ty h => (relTypeOkB_iff _ _).mpr ?_,
    fun rw hr => (rewriteOkB_iff _ _ _).mpr ⟨fun r h => ?_, fun q h => ?_⟩⟩
  · rcases hty ty h with ⟨h1, i, hi, h2⟩ | ⟨a, b, hab, h1, h2⟩
    · have : Declared nss (bstr i.val) := hok _ hi
      rwa [if_pos h1, ← h2]
    · have : HasRelation nss (bstr a.val) (bstr b.val) := hok _ hab
      rw [h1, h2] at this
      split
      · exact hasRelation_declared this
      · exact this
  · obtain ⟨i, hi, h2⟩ := (hrw rw hr).computed r h
    exact h2 ▸ (hok _ hi : HasRelation nss N.name (bstr i.val))
  · obtain ⟨i, hi1, hi2, h2⟩ := (hrw rw hr).ttu q h
    exact h2 ▸ (⟨hok _ hi2, hok _ hi1⟩ : HasRelation nss N.name (bstr i.val) ∧
      TypesHave nss q.2 (Keto.Facts.tupleToSubjectSetTypeCheckMaxDepth + 1) N.name (bstr i.val))

/-- A relation the type checker finds is one `ASTRelationFor` does not reject. -/
theorem astRelationFor_ne_bad_of_isSome {c : Cfg} {n r : String} (h : (findRelationT c n r).isSome = true) :
    astRelationFor c n r ≠ .bad := by
  obtain ⟨R, hR⟩ := Option.isSome_iff_exists.mp h
  unfold findRelationT at hR
  split at hR
  · cases hR
  · rename_i N hN
    by_cases hr : r = ""
    · simp [astRelationFor, hr]
    · rw [astRelationFor_eq_rel.mpr ⟨hr, N, hN, hR⟩]
      exact fun e => nomatch e

theorem astRelationFor_rel_find {c : Cfg} {ns rel : String} {R : Relation} (h : astRelationFor c ns rel = .rel R) :
    ∃ N, findNsT c ns = some N ∧ findRelT N.relations rel = some R :=
  (astRelationFor_eq_rel.mp h).2

theorem conformsTuple_set {c : Cfg} {t : Tuple} (h : conformsTuple c t = true) {n : String} {o : Nat} {r : String}
    (hs : t.sub = .set n o r) :
    ∃ N R, findNsT c t.ns = some N ∧ findRelT N.relations t.rel = some R ∧ (⟨n, r⟩ : RelType) ∈ R.types := by
  obtain ⟨R, hR, _, _, hty⟩ := conformsTuple_lookup h
  obtain ⟨N, hN, hRf⟩ := astRelationFor_rel_find hR
  obtain ⟨ty, hm, hc⟩ := List.any_eq_true.mp (hty n o r hs)
  simp only [Bool.and_eq_true, beq_iff_eq] at hc
  exact ⟨N, R, hN, hRf, by rw [← hc.1, ← hc.2]; exact hm⟩

theorem wellFormed_of_typeOk {c : Cfg} {T : List Tuple} (hty : TypeOk c) (hpl : PlainTraversals c)
    (hconf : conforms c T = true) : WellFormed c T := by
  have hct : ∀ t ∈ T, conformsTuple c t = true := fun t ht => List.all_eq_true.mp hconf t ht
  refine ⟨?_, ?_, ?_⟩
  · -- subject sets of stored tuples
    intro t ht n o r hs
    obtain ⟨N, R, hN, hR, hmem⟩ := conformsTuple_set (hct t ht) hs
    have h := (relTypeOkB_iff _ _).mp (hty.types (findNsT_mem hN) (findRelT_mem hR) hmem)
    by_cases hr : r = ""
    · simp [astRelationFor, hr]
    · exact astRelationFor_ne_bad_of_isSome ((findRelationT_isSome_iff _ _ _).mpr (by simpa [hr] using h))
  · -- computed subject sets
    intro ns rel R rw hast hrw r' hr'
    obtain ⟨N, hN, hR⟩ := astRelationFor_rel_find hast
    have h := hty.computed (findNsT_mem hN) (findRelT_mem hR) hrw hr'
    rw [findNsT_name hN] at h
    exact astRelationFor_ne_bad_of_isSome h
  · -- tuple-to-subject-set
    intro ns rel R rw hast hrw q hq t ht htns htrel n o r hs
    obtain ⟨N, hN, hR⟩ := astRelationFor_rel_find hast
    have hth := hty.ttu (findNsT_mem hN) (findRelT_mem hR) hrw hq
    obtain ⟨Rr, hRr, hplain⟩ := hpl.plain (findNsT_mem hN) (findRelT_mem hR) hrw hq
    rw [findNsT_name hN] at hth hRr
    -- the stored tuple is on the traversed relation, its subject set matches a declared type
    obtain ⟨N', R', hN', hR', hmem⟩ := conformsTuple_set (hct t ht) hs
    rw [htns, hN] at hN'
    cases hN'
    rw [htrel] at hR'
    have hRr' : findRelationT c ns q.1 = some R' := by
      unfold findRelationT
      rw [hN]
      exact hR'
    rw [hRr] at hRr'
    cases hRr'
    have hr0 : r = "" := hplain _ hmem
    subst hr0
    -- one level of the recursive check
    obtain ⟨R2, hR2, hall⟩ := hth
    rw [hRr] at hR2
    cases hR2
    exact astRelationFor_ne_bad_of_isSome ((findRelationT_isSome_iff _ _ _).mpr ((hall _ hmem).1 rfl))


end Keto
