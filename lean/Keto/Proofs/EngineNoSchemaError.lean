/-
  A configuration (and store) whose references resolve cannot make the engine model fail with a
  schema error: instance of the generic invariant `build_inv` (EngineSound) for
  `NoErr .schema` over the calls whose own lookups are fine (`Call.WF`).
-/
import Keto.Model.Engine
import Keto.Spec.WellFormed
import Keto.Proofs.EngineSound

namespace Keto

theorem Child.computedNamesL_eq : ∀ cs : List Child, Child.computedNamesL cs = cs.flatMap Child.computedNames
  | [] => rfl
  | c :: cs => by rw [Child.computedNamesL, List.flatMap_cons, Child.computedNamesL_eq cs]

theorem Child.ttuNamesL_eq : ∀ cs : List Child, Child.ttuNamesL cs = cs.flatMap Child.ttuNames
  | [] => rfl
  | c :: cs => by rw [Child.ttuNamesL, List.flatMap_cons, Child.ttuNamesL_eq cs]

theorem ChildOK.of_mem {c : Cfg} {T : List Tuple} {ns : String} {op : Op} {cs : List Child} {ch : Child}
    (h : ChildOK c T ns (.rewrite op cs)) (hm : ch ∈ cs) : ChildOK c T ns ch where
  computed := fun r' hr => h.computed r' (by
    rw [Child.computedNames, Child.computedNamesL_eq]
    exact List.mem_flatMap.2 ⟨ch, hm, hr⟩)
  ttu := fun p hp => h.ttu p (by
    rw [Child.ttuNames, Child.ttuNamesL_eq]
    exact List.mem_flatMap.2 ⟨ch, hm, hp⟩)

theorem ChildOK.of_invert {c : Cfg} {T : List Tuple} {ns : String} {ch : Child}
    (h : ChildOK c T ns (.invert ch)) : ChildOK c T ns ch where
  computed := fun r' hr => h.computed r' (by simp only [Child.computedNames]; exact hr)
  ttu := fun p hp => h.ttu p (by simp only [Child.ttuNames]; exact hp)

theorem wf_closed (E : Env) (hw : WellFormed E.cfg E.T) :
    Closed E (NoErr .schema) (fun _ call => call.WF E.cfg E.T) where
  zero := fun _ _ h => by cases h
  bad := fun _ _ _ _ hok _ h => absurd h hok
  isAllowed_rw := fun _ t _ _ _ _ R rw hR hrw =>
    ⟨hw.computed t.ns t.rel R rw hR hrw, hw.ttu t.ns t.rel R rw hR hrw⟩
  isAllowed_exp := fun _ _ _ _ _ _ n' o r hm => hw.subjectSets _ hm n' o r rfl
  rewrite_sc := fun _ _ _ _ hok _ r hr =>
    (ChildOK.of_mem hok hr).computed r (by simp only [Child.computedNames, List.mem_singleton])
  rewrite_ch := fun _ _ _ _ hok _ _ hm => ChildOK.of_mem hok hm
  ttu := fun _ _ rel crel _ _ hok _ n' o r hm =>
    hok.ttu (rel, crel) (by simp only [Child.ttuNames, List.mem_singleton]) _ hm rfl rfl n' o r rfl
  computed := fun _ _ rel _ _ hok _ =>
    hok.computed rel (by simp only [Child.computedNames, List.mem_singleton])
  crewrite := fun _ _ _ _ _ _ hok => hok
  cinvert := fun _ _ _ _ _ hok => ChildOK.of_invert hok
  invert := fun _ _ _ _ hok _ => hok

/-- The model never produces the `ctx` error kind: context cancellation is not modelled in `build`. -/
theorem Yields.no_ctx {E : Env} {n : Nat} {call : Call} {x : Res} (h : Yields E n call x) : NoErr .ctx x := by
  induction h with
  | invert _ _ ih => exact (NoErr.ok (by decide)).inv _ ih
  | andFail _ _ _ ih => exact ih
  | diverged | unk | nm | storage | schema | direct | expandAny | shortcut | andAll => exact nofun
  | viaRewrite | viaExpand | viaShortcut | or | ttu | computed | crewrite | cinvert => assumption

theorem NoErr.storage_only {r : Res} (h1 : NoErr .schema r) (h2 : NoErr .diverged r) (h3 : NoErr .ctx r) :
    r.err = none ∨ r.err = some .storage := by
  cases h : r.err with
  | none => exact .inl rfl
  | some k =>
    rw [NoErr, h] at h1 h2 h3
    cases k with
    | storage => exact .inr rfl
    | schema => exact absurd rfl h1
    | ctx => exact absurd rfl h3
    | diverged => exact absurd rfl h2

theorem subjectOkB_sound {c : Cfg} {s : Subject} {rel : Option String} (h : subjectOkB c s rel = true)
    {n : String} {o : Nat} {r : String} (hs : s = .set n o r) : astRelationFor c n (rel.getD r) ≠ .bad := by
  subst hs
  simp only [subjectOkB, Bool.not_eq_true'] at h
  exact Lookup.ne_bad_of_isBad h

end Keto
