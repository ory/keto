/-
  What a store that conforms to the configuration (`conforms`, Keto/Spec/Membership.lean) gives: in strict
  mode the engine skips the direct lookup for relations with a rewrite (`conforms_no_rewrite`), the subject-set
  expansion for relations without a subject-set type (`conforms_set_rel`), and the union-shortcut candidates
  with a rewrite (`conforms_hasRewriteRel`); for a conforming store nothing is lost by that.
-/
import Keto.Model.Engine
import Keto.Spec.Membership
import Keto.Proofs.QueryLemmas

namespace Keto

theorem conformsTuple_of_mem {c : Cfg} {T : List Tuple} (h : conforms c T = true) {t : Tuple} (ht : t ∈ T) :
    conformsTuple c t = true :=
  List.all_eq_true.1 h t ht

theorem conformsTuple_lookup {c : Cfg} {t : Tuple} (h : conformsTuple c t = true) :
    ∃ R, astRelationFor c t.ns t.rel = .rel R ∧ R.rewrite = none ∧ t.rel ≠ "" ∧
      ∀ n o r, t.sub = .set n o r → R.types.any (fun ty => ty.ns == n && ty.rel == r) = true := by
  unfold conformsTuple at h
  split at h
  · cases h
  · next N hN =>
    split at h
    · cases h
    · next R hR =>
      simp only [Bool.and_eq_true, Option.isNone_iff_eq_none, bne_iff_ne, ne_eq] at h
      obtain ⟨⟨hrw, hne⟩, hsub⟩ := h
      refine ⟨R, astRelationFor_eq_rel.2 ⟨hne, N, hN, hR⟩, hrw, hne, fun n o r hs => ?_⟩
      rw [hs] at hsub
      exact hsub

theorem conforms_no_rewrite {c : Cfg} {T : List Tuple} (h : conforms c T = true) {t : Tuple} (ht : t ∈ T)
    {R : Relation} (hR : astRelationFor c t.ns t.rel = .rel R) : R.rewrite = none := by
  obtain ⟨R', hR', hrw, _, _⟩ := conformsTuple_lookup (conformsTuple_of_mem h ht)
  rw [hR] at hR'
  cases hR'
  exact hrw

theorem conforms_set_rel {c : Cfg} {T : List Tuple} (h : conforms c T = true) {ns : String} {obj : Nat}
    {rel : String} {n : String} {o : Nat} {r : String} (ht : (⟨ns, obj, rel, .set n o r⟩ : Tuple) ∈ T)
    {R : Relation} (hR : astRelationFor c ns rel = .rel R) (hss : containsSubjectSetExpand R = false) : r = "" := by
  obtain ⟨R', hR', _, _, hty⟩ := conformsTuple_lookup (conformsTuple_of_mem h ht)
  have hR'' : astRelationFor c ns rel = .rel R' := hR'
  rw [hR] at hR''
  cases hR''
  have := hty n o r rfl
  rw [List.any_eq_true] at this
  obtain ⟨ty, hm, hc⟩ := this
  simp only [Bool.and_eq_true, beq_iff_eq] at hc
  have hall : ∀ ty, ty ∈ R.types → ty.rel = "" := by
    intro ty hty
    have := List.any_eq_false.1 hss ty hty
    simpa using this
  rw [← hc.2]
  exact hall ty hm

theorem conforms_hasRewriteRel {c : Cfg} {T : List Tuple} (h : conforms c T = true) {t : Tuple} (ht : t ∈ T) :
    hasRewriteRel c t.ns t.rel = false := by
  unfold hasRewriteRel
  split
  · next R hR => rw [conforms_no_rewrite h ht hR]; rfl
  · rfl

end Keto
