/-
  What the specification of C09 computes (Keto/Spec/Reach.lean): the breadth-first search
  `reachLevels` lists exactly the subjects within a distance (`mem_reachWithin`, `mem_reachAll`),
  and for a configuration without rewrites `Mem` is `Reach` (`mem_reach`, `reach_mem`).
-/
import Keto.Spec.Reach
import Keto.Spec.Membership
import Keto.Proofs.QueryLemmas

namespace Keto

variable {T : List Tuple} {S x : Subject} {c : Cfg}

theorem Reach.head {n : String} {o : Nat} {r : String} {m x : Subject}
    (hm : (⟨n, o, r, m⟩ : Tuple) ∈ T) (h : Reach T m x) : Reach T (.set n o r) x := by
  induction h with
  | direct he ht => exact .step (.direct rfl (he ▸ hm)) ht
  | step _ ht ih => exact .step ih ht

theorem ReachIn.toReach {k : Nat} (h : ReachIn T S k x) : Reach T S x := by
  induction h with
  | direct he ht => exact .direct he ht
  | step _ ht ih => exact .step ih ht

theorem ReachIn.pos {k : Nat} (h : ReachIn T S k x) : 1 ≤ k := by
  cases h <;> omega

theorem ReachIn.mem_sub {k : Nat} (h : ReachIn T S k x) : x ∈ T.map (·.sub) := by
  cases h with
  | direct _ ht => exact List.mem_map.mpr ⟨_, ht, rfl⟩
  | step _ ht => exact List.mem_map.mpr ⟨_, ht, rfl⟩

/-- Reachable along at most `m` tuples. -/
def ReachLe (T : List Tuple) (S : Subject) (m : Nat) (x : Subject) : Prop :=
  ∃ j, j ≤ m ∧ ReachIn T S j x

theorem ReachLe.mono {m m' : Nat} (h : ReachLe T S m x) (hm : m ≤ m') :
    ReachLe T S m' x := by
  obtain ⟨j, hj, hr⟩ := h; exact ⟨j, Nat.le_trans hj hm, hr⟩

theorem mem_succs {f x : Subject} :
    x ∈ succs T f ↔ ∃ n o r, f = .set n o r ∧ (⟨n, o, r, x⟩ : Tuple) ∈ T := by
  cases f with
  | id u => simp [succs]
  | set n o r =>
    simp only [succs, List.mem_map, Subject.set.injEq]
    constructor
    · rintro ⟨t, ht, rfl⟩; exact ⟨n, o, r, ⟨rfl, rfl, rfl⟩, mem_of_mem_rowsOf ht⟩
    · rintro ⟨_, _, _, ⟨rfl, rfl, rfl⟩, ht⟩; exact ⟨_, mem_rowsOf_self ht, rfl⟩

theorem mem_succsAll : ∀ {front : List Subject},
    x ∈ succsAll T front ↔ ∃ f, f ∈ front ∧ x ∈ succs T f
  | [] => by simp [succsAll]
  | f :: fs => by simp only [succsAll, List.mem_append, mem_succsAll (front := fs), List.mem_cons, exists_eq_or_imp]

theorem reachLe_succ {m : Nat} :
    ReachLe T S (m + 1) x ↔ x ∈ succs T S ∨ ∃ p, ReachLe T S m p ∧ x ∈ succs T p := by
  simp only [mem_succs]
  constructor
  · rintro ⟨j, hj, hr⟩
    cases hr with
    | direct he ht => exact .inl ⟨_, _, _, he, ht⟩
    | step hp ht => exact .inr ⟨_, ⟨_, by omega, hp⟩, _, _, _, rfl, ht⟩
  · rintro (⟨n, o, r, he, ht⟩ | ⟨p, ⟨j, hj, hr⟩, n, o, r, rfl, ht⟩)
    · exact ⟨1, by omega, .direct he ht⟩
    · exact ⟨j + 1, by omega, .step hr ht⟩

theorem not_reachLe_zero : ¬ ReachLe T S 0 x :=
  fun ⟨_, hj, hr⟩ => by have := hr.pos; omega

theorem addNew_spec (xs acc : List Subject) :
    ∃ new, addNew xs acc = acc ++ new ∧ (∀ x, x ∈ acc ++ new ↔ x ∈ acc ∨ x ∈ xs) ∧
      (acc.Nodup → (acc ++ new).Nodup) := by
  fun_induction addNew xs acc with
  | case1 acc => exact ⟨[], by simp⟩
  | case2 y xs acc hy ih =>
    obtain ⟨new, he, hm, hn⟩ := ih
    refine ⟨new, he, fun x => ?_, hn⟩
    rw [hm, List.mem_cons]
    exact ⟨.imp_right .inr, fun h => h.elim .inl (·.elim (fun e => .inl (e ▸ List.contains_iff_mem.mp hy)) .inr)⟩
  | case3 y xs acc hy ih =>
    obtain ⟨new, he, hm, hn⟩ := ih
    rw [List.append_assoc, List.singleton_append] at he hm hn
    refine ⟨y :: new, he, fun x => ?_, fun h => hn ?_⟩
    · rw [hm, List.mem_append, List.mem_singleton, List.mem_cons, or_assoc]
    · exact List.nodup_append.mpr ⟨h, by simp, fun a ha b hb hab =>
        hy (List.contains_iff_mem.mpr (List.mem_singleton.mp hb ▸ hab ▸ ha))⟩

/-- When level `i + 1` adds nothing, `seen` holds everything reachable. -/
theorem closed_all {seen : List Subject} {i : Nat}
    (h1 : ∀ x, x ∈ seen → ReachLe T S i x) (h2 : ∀ x, ReachLe T S (i + 1) x → x ∈ seen) :
    ∀ {x : Subject}, Reach T S x → x ∈ seen := by
  intro x h
  induction h with
  | direct he ht => exact h2 _ ⟨1, by omega, .direct he ht⟩
  | step _ ht ih =>
    obtain ⟨j', hj', hr⟩ := h1 _ ih
    exact h2 _ ⟨j' + 1, by omega, .step hr ht⟩

/-- The invariant of the breadth-first search: after round `i` the list `seen` holds exactly the
    subjects reachable along at most `i` tuples, and together with the successors of the front those
    reachable along at most `i + 1`. Then the result is level `≤ i + k`; it holds everything
    reachable, or every one of the `k` rounds added a subject. -/
theorem reachLevels_spec : ∀ (k i : Nat) (front seen : List Subject),
    (∀ x, x ∈ seen ↔ ReachLe T S i x) →
    (∀ x, x ∈ seen ∨ x ∈ succsAll T front ↔ ReachLe T S (i + 1) x) → seen.Nodup →
    (∀ x, x ∈ reachLevels T k front seen ↔ ReachLe T S (i + k) x) ∧ (reachLevels T k front seen).Nodup ∧
    ((∀ x, Reach T S x → x ∈ reachLevels T k front seen) ∨
      seen.length + k ≤ (reachLevels T k front seen).length)
  | 0, i, _, seen, h1, _, hn => ⟨h1, hn, .inr (Nat.le_refl _)⟩
  | k+1, i, front, seen, h1, h2, hn => by
    simp only [reachLevels]
    obtain ⟨new, he, hmem, hnd⟩ := addNew_spec (succsAll T front) seen
    rw [he, List.drop_left]
    have h1' : ∀ x, x ∈ seen ++ new ↔ ReachLe T S (i + 1) x := fun x => (hmem x).trans (h2 x)
    split
    · next hemp =>
      have hnil : new = [] := by simpa using hemp
      subst hnil
      have hall := fun x (h : Reach T S x) =>
        closed_all (fun x hx => (h1 x).mp hx) (fun x hx => by simpa using (h1' x).mpr hx) h
      exact ⟨fun x => ⟨fun hx => ((h1 x).mp hx).mono (by omega), fun ⟨_, _, hr⟩ => hall x hr.toReach⟩, hn, .inl hall⟩
    · next hne =>
      obtain ⟨r1, r2, r3⟩ := reachLevels_spec k (i + 1) new (seen ++ new) h1'
        (fun x => by
          -- both sides: a successor of the start, of something seen, or of something new
          rw [h1', reachLe_succ, reachLe_succ (m := i + 1)]
          simp only [← h1, ← h1', mem_succsAll, List.mem_append, or_and_right, exists_or, or_assoc])
        (hnd hn)
      have e : i + 1 + k = i + (k + 1) := by omega
      rw [e] at r1
      refine ⟨r1, r2, r3.imp id fun h => ?_⟩
      have : 0 < new.length := List.length_pos_iff.mpr (by simpa using hne)
      rw [List.length_append] at h
      omega

theorem reachLevels_start (k : Nat) :
    (∀ x, x ∈ reachLevels T k [S] [] ↔ ReachLe T S k x) ∧ (reachLevels T k [S] []).Nodup ∧
    ((∀ x, Reach T S x → x ∈ reachLevels T k [S] []) ∨ k ≤ (reachLevels T k [S] []).length) := by
  have := reachLevels_spec (T := T) (S := S) k 0 [S] []
    (fun x => ⟨(nomatch ·), (not_reachLe_zero · |>.elim)⟩)
    (fun x => by simp [reachLe_succ, not_reachLe_zero, succsAll]) .nil
  simpa using this

theorem mem_reachWithin {d : Nat} :
    x ∈ reachWithin T d S ↔ ∃ j, 1 ≤ j ∧ j < d ∧ ReachIn T S j x := by
  rw [reachWithin, (reachLevels_start (d - 1)).1]
  exact ⟨fun ⟨j, hj, hr⟩ => ⟨j, hr.pos, by have := hr.pos; omega, hr⟩, fun ⟨j, _, hj, hr⟩ => ⟨j, by omega, hr⟩⟩

/-- A round that does not end the search adds a subject of a stored tuple, so `T.length + 2` rounds exhaust the
    graph. -/
theorem mem_reachAll : x ∈ reachAll T S ↔ Reach T S x := by
  obtain ⟨h1, hn, h3⟩ := reachLevels_start (T := T) (S := S) (T.length + 2)
  refine ⟨fun h => ?_, h3.elim (· x) fun h3 => ?_⟩
  · obtain ⟨j, _, hr⟩ := (h1 x).mp h
    exact hr.toReach
  · have := hn.length_le_of_subset (l₂ := T.map (·.sub)) fun y hy => by
      obtain ⟨_, _, hr⟩ := (h1 y).mp hy
      exact hr.mem_sub
    rw [List.length_map] at this
    omega

/-- No relation of the configuration has a rewrite (legacy namespaces, or OPL namespaces
    that only declare relations); the hypothesis `hnr` of `C01_complete_norewrite`. -/
def Cfg.plain (c : Cfg) : Prop := ∀ ns rel R, astRelationFor c ns rel = .rel R → R.rewrite = none

theorem mem_reach (hc : Cfg.plain c) :
    ∀ {t : Tuple}, Mem c T t → Reach T (.set t.ns t.obj t.rel) t.sub
  | _, .direct t h => .direct rfl h
  | _, .expand t _ _ _ h hm => Reach.head h (mem_reach hc hm)
  | _, .rewrite _ _ _ h1 h2 _ => nomatch (hc _ _ _ h1).symm.trans h2

theorem Mem.trans_of_plain (hc : Cfg.plain c) {n' : String} {o' : Nat} {r' : String} {x : Subject} :
    ∀ {t : Tuple}, Mem c T t → t.sub = .set n' o' r' → Mem c T ⟨n', o', r', x⟩ → Mem c T ⟨t.ns, t.obj, t.rel, x⟩
  | _, .direct t h, hs, hx => .expand ⟨t.ns, t.obj, t.rel, x⟩ n' o' r' (by rw [← hs]; exact h) hx
  | _, .expand t n o r h hm, hs, hx =>
    .expand ⟨t.ns, t.obj, t.rel, x⟩ n o r h (Mem.trans_of_plain hc hm hs hx)
  | _, .rewrite _ _ _ h1 h2 _, _, _ => nomatch (hc _ _ _ h1).symm.trans h2

theorem reach_mem (hc : Cfg.plain c) {n : String} {o : Nat} {r : String} {x : Subject}
    (h : Reach T (.set n o r) x) : Mem c T ⟨n, o, r, x⟩ := by
  induction h with
  | direct he ht => cases he; exact .direct _ ht
  | step _ ht ih => exact Mem.trans_of_plain hc ih rfl (.direct _ ht)

theorem mem_idsOf {u : Nat} : ∀ {l : List Subject}, u ∈ idsOf l ↔ Subject.id u ∈ l
  | [] => by simp [idsOf]
  | .id v :: l => by simp only [idsOf, List.mem_cons, mem_idsOf (l := l), Subject.id.injEq]
  | .set _ _ _ :: l => by simp only [idsOf, List.mem_cons, mem_idsOf (l := l), reduceCtorEq, false_or]

end Keto
